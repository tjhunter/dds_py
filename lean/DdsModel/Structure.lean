import DdsModel.Graph
import DdsModel.Assoc
/-!
# `_plotting._structure`, line by line

An executable model of the graph construction of `dds/_plotting.py` (`_structure` / `traverse`), with its mutable
dictionaries as association lists threaded through the traversal: `nodes`, `all_refs`, `node_deps`, `deps`, `load_deps`.
Unlike `graphOf` (the *specification* of the nodes and of the solid / dashed edges, `DdsModel/Graph.lean`) it also
produces the dotted call-order edges, guarded — since the `fix:` commit for cycles of dotted edges — by `reaches`: an
implicit edge is added only if its target does not already reach its source along the edges recorded so far.

The head nodes of a call that is not kept are sorted by their signature in the code (`sorted(..., key=node_hash)`): the
model sorts by the real digest (`Sg.interp`), so that the order in which candidate edges are tried is the code's.
-/
namespace Dds

inductive EdgeTy where
  | direct | indirect | implicit
  deriving DecidableEq, Repr

structure GNode where
  path : String
  sig : Sg
  deriving DecidableEq

structure GEdge where
  src : String
  dst : String
  ty : EdgeTy

/-- the state of `_structure` -/
structure SSt where
  nodes : List (Sg × GNode) := []
  allRefs : List (String × Sg) := []
  nodeDeps : List (Sg × List Sg) := []
  deps : List ((Sg × Sg) × GEdge) := []
  loadDeps : List ((Sg × Sg) × GEdge) := []

def SSt.depsOf (st : SSt) (k : Sg) : List Sg := (kvGet st.nodeDeps k).getD []

/-- one round of the search: the targets of the edges that leave a node seen so far -/
def reachStep (edges : List (Sg × Sg)) (seen : List Sg) : List Sg :=
  edges.foldl (fun acc e => if e.1 ∈ acc then addNew acc e.2 else acc) seen

def reachSet (edges : List (Sg × Sg)) : Nat → List Sg → List Sg
  | 0, seen => seen
  | n + 1, seen => reachSet edges n (reachStep edges seen)

/-- `reaches(start, target)`: the target can be reached from the start along the edges -/
def reaches (edges : List (Sg × Sg)) (start target : Sg) : Bool :=
  decide (target ∈ reachSet edges (edges.length + 1) [start])

def SSt.edgeKeys (st : SSt) : List (Sg × Sg) := st.deps.map Prod.fst ++ st.loadDeps.map Prod.fst

/-- nodes by hash, first position, last value (`dict([(n.node_hash, n) ...]).values()`) -/
def dedupNodes (ns : List GNode) : List GNode :=
  (ns.foldl (fun (acc : List (Sg × GNode)) n => kvSet acc n.sig n) []).map Prod.snd

def insertNode (n : GNode) : List GNode → List GNode
  | [] => [n]
  | m :: ms => if n.sig.interp < m.sig.interp then n :: m :: ms else m :: insertNode n ms

/-- `sorted(..., key=lambda n: n.node_hash)` (stable insertion sort on the real digests) -/
def sortNodes (ns : List GNode) : List GNode := ns.foldr insertNode []

/-- the body of the two nested loops over `start_nodes` × `l1` for one context-dependent call -/
def implicitEdges (subSet : List Sg) (startNodes l1 : List GNode) (st : SSt) : SSt :=
  startNodes.foldl (fun st n1 =>
    l1.foldl (fun (st : SSt) n2 =>
      let k1 := n1.sig
      let k2 := n2.sig
      let st := if (kvGet st.nodeDeps k1).isNone then { st with nodeDeps := kvSet st.nodeDeps k1 [] } else st
      let st := if (kvGet st.nodeDeps k2).isNone then { st with nodeDeps := kvSet st.nodeDeps k2 [] } else st
      if k1 ≠ k2 ∧ (kvGet st.deps (k1, k2)).isNone ∧ k2 ∉ st.depsOf k1 ∧ k1 ∉ st.depsOf k2 ∧ k1 ∉ subSet ∧ k2 ∉ subSet ∧
          reaches st.edgeKeys k2 k1 = false then
        { st with deps := kvSet st.deps (k1, k2) ⟨n1.path, n2.path, .implicit⟩,
                  nodeDeps := kvSet st.nodeDeps k2 (addAll (addNew (st.depsOf k2) k1) (st.depsOf k1)) }
      else st) st) st

/-- the loop over `sub_calls[1:]` -/
def siblingLoop (arity : String → Nat) (subSet : List Sg) :
    List (List GNode × FIS) → List GNode → SSt → SSt
  | [], _, st => st
  | (l1, fi) :: rest, startNodes, st =>
    if arity fi.name = 0 then siblingLoop arity subSet rest (startNodes ++ l1) st
    else siblingLoop arity subSet rest l1 (implicitEdges subSet startNodes l1 st)

mutual
/-- `traverse(fis_)`: the head nodes of the call, and the state afterwards -/
def traverse (arity : String → Nat) (st : SSt) : FIS → Except String (List GNode × SSt)
  | .mk _ sig sp subs loads =>
    match traverseL arity st subs with
    | .error e => .error e
    | .ok (calls, st) =>
      let subNodes := sortNodes (dedupNodes (calls.flatMap Prod.fst))
      let subSet := subNodes.foldl (fun acc n => addAll acc (st.depsOf n.sig)) []
      let st := match calls with
        | [] => st
        | (l0, _) :: rest => siblingLoop arity subSet rest l0 st
      match sp with
      | none => .ok (subNodes, st)
      | some p =>
        let res : GNode := ⟨p, sig⟩
        let st := { st with nodes := kvSet st.nodes sig res, allRefs := kvSet st.allRefs p sig }
        let subSet := addAll subSet (subNodes.map GNode.sig)
        let st := { st with nodeDeps := kvSet st.nodeDeps sig subSet }
        let st := subNodes.foldl (fun (st : SSt) n =>
          let k := (n.sig, sig)
          let st := match kvGet st.deps k with
            | some e => if e.ty = EdgeTy.direct then st else { st with deps := kvSet st.deps k ⟨n.path, p, .direct⟩ }
            | none => { st with deps := kvSet st.deps k ⟨n.path, p, .direct⟩ }
          { st with nodeDeps := kvSet st.nodeDeps sig (addAll (st.depsOf sig) (st.depsOf n.sig)) }) st
        let rec loadLoop (ls : List String) (st : SSt) : Except String SSt :=
          match ls with
          | [] => .ok st
          | q :: ls =>
            match kvGet st.allRefs q with
            | none => .error ("assertion: " ++ q)
            | some sig2 =>
              let st := if (kvGet st.nodes sig2).isNone then { st with nodes := kvSet st.nodes sig2 ⟨q, sig2⟩ } else st
              let k := (sig2, sig)
              let st := if (kvGet st.loadDeps k).isNone then { st with loadDeps := kvSet st.loadDeps k ⟨q, p, .indirect⟩ } else st
              loadLoop ls st
        match loadLoop (loads.map Prod.fst) st with
        | .error e => .error e
        | .ok st => .ok ([res], st)
def traverseL (arity : String → Nat) (st : SSt) : List FIS → Except String (List (List GNode × FIS) × SSt)
  | [] => .ok ([], st)
  | f :: fs =>
    match traverse arity st f with
    | .error e => .error e
    | .ok (l, st) =>
      match traverseL arity st fs with
      | .error e => .error e
      | .ok (rest, st) => .ok ((l, f) :: rest, st)
end

structure SGraph where
  nodes : List String
  edges : List GEdge

/-- `_structure(fis, indirect_refs)` -/
def structureM (arity : String → Nat) (refs : List (String × Sg)) (fis : FIS) : Except String SGraph :=
  match traverse arity { allRefs := refs } fis with
  | .error e => .error e
  | .ok (_, st) => .ok { nodes := st.nodes.map (fun kv => kv.2.path), edges := st.deps.map Prod.snd ++ st.loadDeps.map Prod.snd }

end Dds
