/-! Association lists with any decidable key type. The lookups `aget`, `lget`, `sgGet`, `tget` of the other model files are the
same recursion written out at their key type (`DdsProofs/Assoc.lean`: `eq_kvGet`). -/
namespace Dds

def kvGet {κ α} [DecidableEq κ] (l : List (κ × α)) (k : κ) : Option α :=
  match l with
  | [] => none
  | (k', v) :: l => if k' = k then some v else kvGet l k

/-- `d[k] = v` on an ordered dictionary: an existing key keeps its position -/
def kvSet {κ α} [DecidableEq κ] (l : List (κ × α)) (k : κ) (v : α) : List (κ × α) :=
  match l with
  | [] => [(k, v)]
  | (k', v') :: l => if k' = k then (k, v) :: l else (k', v') :: kvSet l k v

end Dds
