import DdsProofs.Items
import DdsProofs.Tree
import DdsProofs.PathMap
import DdsProofs.Hash
/-!
What a successful analysis must have computed: of one item (`VisitStep`, three cases), of one function (`AnalyseOk`), of
the analysis phase (`PhaseOk`). The proofs about an analysed program use these and not the `do` blocks of the definitions;
Cone.lean, which compares two runs of the analysis step by step, follows the definitions.
The parameter `m` that every function of the analysis takes is `ddsHash`'s bound on the length of a sequence
(`hash.max_sequence_size`): it is only ever passed on.
-/
namespace Dds
open List

theorem liftA_ok {α} {x : Except ArgErr α} {a : α} (h : liftA x = .ok a) : x = .ok a := by
  cases x with
  | ok b => cases h; rfl
  | error e => cases h

theorem liftH_ok {α} {x : Except HashErr α} {a : α} (h : liftH x = .ok a) : x = .ok a := by
  cases x with
  | ok b => cases h; rfl
  | error e => cases h

theorem liftS_ok {α} {x : Except SigErr α} {a : α} (h : liftS x = .ok a) : x = .ok a := by
  cases x with
  | ok b => cases h; rfl
  | error e => cases h

/-- a successful call-like step of the visitor: what was computed -/
structure CallStep (m : Nat) (W : World) (rec : Analyse) (fn : Fn) (inputSig : Sg) (stack : List String)
    (st : VisitSt) (f : String) (args : List AstArg) (kwargs : List (String × AstArg)) (line : Nat)
    (g : Fn) (ctx : Option Sg) (named : List (String × Option Sg)) (fis : FIS) (refs : Refs) : Prop where
  site : siteCtx m fn inputSig st.inters line st.refs st.loads = .ok ctx
  find : W.find f = some g
  fresh : f ∉ stack
  hnamed : getArgCtxAst m g.params args kwargs = .ok named
  sub : rec st.refs (stack ++ [f]) g ⟨named, ctx⟩ = .ok (fis, refs)

theorem plain_inv {m : Nat} {W : World} {rec : Analyse} {fn : Fn} {inputSig : Sg} {stack : List String}
    {st st' : VisitSt} {f : String} {args : List AstArg} {kwargs : List (String × AstArg)} {line : Nat}
    (h : visitItem.plain m W rec fn inputSig stack st f args kwargs line = .ok st') :
    ∃ g ctx named fis refs, CallStep m W rec fn inputSig stack st f args kwargs line g ctx named fis refs ∧
      st' = { st with inters := st.inters ++ [fis], refs := refs } := by
  unfold visitItem.plain at h
  obtain ⟨ctx, hsite, h⟩ := bind_ok h
  cases hf : W.find f with
  | none => simp [hf] at h
  | some g =>
    simp only [hf] at h
    by_cases hs : f ∈ stack
    · simp [hs] at h
    · simp only [hs, if_false] at h
      obtain ⟨named, hn, h⟩ := bind_ok h
      obtain ⟨⟨fis, refs⟩, hr, h⟩ := bind_ok h
      simp only [pure, Except.pure, Except.ok.injEq] at h
      exact ⟨g, ctx, named, fis, refs, ⟨hsite, hf, hs, liftA_ok hn, hr⟩, h.symm⟩

theorem keep_inv {m : Nat} {W : World} {rec : Analyse} {fn : Fn} {inputSig : Sg} {stack : List String}
    {st st' : VisitSt} {path f : String} {args : List AstArg} {kwargs : List (String × AstArg)}
    {rtA : List (Option RtExpr)} {rtK : List (String × Option RtExpr)} {line : Nat}
    (h : visitItem m W rec fn inputSig stack st (.keep path f args kwargs rtA rtK line) = .ok st') :
    ∃ g ctx named fis refs, CallStep m W rec fn inputSig stack st f args kwargs line g ctx named fis refs ∧
      st' = { st with inters := st.inters ++ [fis.withPath path], refs := aset refs path fis.retSig } := by
  unfold visitItem at h
  obtain ⟨ctx, hsite, h⟩ := bind_ok h
  by_cases hp : pathAbsolute path = true
  · simp only [hp, Bool.not_true, Bool.false_eq_true, if_false] at h
    cases hf : W.find f with
    | none => simp [hf] at h
    | some g =>
      simp only [hf] at h
      by_cases hs : f ∈ stack
      · simp [hs] at h
      · simp only [hs, if_false] at h
        obtain ⟨named, hn, h⟩ := bind_ok h
        obtain ⟨⟨fis, refs⟩, hr, h⟩ := bind_ok h
        simp only [pure, Except.pure, Except.ok.injEq] at h
        exact ⟨g, ctx, named, fis, refs, ⟨hsite, hf, hs, liftA_ok hn, hr⟩, h.symm⟩
  · simp [hp] at h

/-! ## One item of a body: three cases -/

/-- the state of the visitor after a call-like item whose callee `f` was analysed to `fis`, leaving `refs` -/
def VisitSt.afterCall (s : VisitSt) (it : Item) (f : String) (fis : FIS) (refs : Refs) : VisitSt where
  inters := s.inters ++ [fis.kept it.keepPath]
  loads := s.loads
  seen := if it.isRef then f :: s.seen else s.seen
  refs := match it.keepPath with
    | some p => aset refs p fis.retSig
    | none => refs

/-- what a successful step of the visitor did: a load, a reference to a function already met in this body (nothing), or a
call — plain, with arguments, by name for the first time, or kept — of a callee that was analysed -/
inductive VisitStep (m : Nat) (W : World) (rec : Analyse) (fn : Fn) (inputSig : Sg) (stack : List String) (s : VisitSt) :
    Item → VisitSt → Prop
  | load (path : String) (line : Nat) : VisitStep m W rec fn inputSig stack s (.load path line) { s with loads := s.loads ++ [path] }
  | seen (f : String) (line : Nat) : f ∈ s.seen → VisitStep m W rec fn inputSig stack s (.ref f line) s
  | call {it : Item} {f : String} {args kwargs rtA rtK} {g : Fn} {ctx : Option Sg} {named : List (String × Option Sg)}
      {fis : FIS} {refs : Refs} : it.callee = some (f, args, kwargs, rtA, rtK) → (it.isRef = true → f ∉ s.seen) →
      CallStep m W rec fn inputSig stack s f args kwargs it.line g ctx named fis refs →
      VisitStep m W rec fn inputSig stack s it (s.afterCall it f fis refs)

theorem visitItem_inv {m : Nat} {W : World} {rec : Analyse} {fn : Fn} {inputSig : Sg} {stack : List String}
    {s t : VisitSt} {it : Item} (h : visitItem m W rec fn inputSig stack s it = .ok t) :
    VisitStep m W rec fn inputSig stack s it t := by
  cases it with
  | call f line =>
    obtain ⟨g, ctx, named, fis, refs, hc, rfl⟩ := plain_inv h
    exact .call (it := .call f line) rfl nofun hc
  | callArgs f args kwargs rtA rtK line =>
    obtain ⟨g, ctx, named, fis, refs, hc, rfl⟩ := plain_inv h
    exact .call (it := .callArgs f args kwargs rtA rtK line) rfl nofun hc
  | ref f line =>
    simp only [visitItem] at h
    split at h
    · cases h; exact .seen f line ‹_›
    · obtain ⟨t', ht, h⟩ := bind_ok h
      obtain ⟨g, ctx, named, fis, refs, hc, rfl⟩ := plain_inv ht
      cases h
      exact .call (it := .ref f line) rfl (fun _ => ‹_›) hc
  | keep path f args kwargs rtA rtK line =>
    obtain ⟨g, ctx, named, fis, refs, hc, rfl⟩ := keep_inv h
    exact .call (it := .keep path f args kwargs rtA rtK line) rfl nofun hc
  | load path line =>
    simp only [visitItem] at h
    split at h
    · cases h
    · cases h; exact .load path line
  | evalCall f line => cases h

section
variable {m : Nat} {W : World} {rec : Analyse} {fn : Fn} {isig : Sg} {stack : List String} {s t : VisitSt} {it : Item}
  {f : String}

theorem VisitStep.of_load {path : String} {line : Nat} (h : VisitStep m W rec fn isig stack s (.load path line) t) :
    t = { s with loads := s.loads ++ [path] } := by
  cases h with
  | load => rfl
  | call hc => cases hc

theorem VisitStep.of_seen {line : Nat} (h : VisitStep m W rec fn isig stack s (.ref f line) t)
    (hin : f ∈ s.seen) : t = s := by
  cases h with
  | seen => rfl
  | call hc hnew => cases hc; exact absurd hin (hnew rfl)

theorem VisitStep.of_call {args kwargs rtA rtK} (h : VisitStep m W rec fn isig stack s it t)
    (hc : it.callee = some (f, args, kwargs, rtA, rtK)) (hnew : it.isRef = true → f ∉ s.seen) :
    ∃ g ctx named fis refs, CallStep m W rec fn isig stack s f args kwargs it.line g ctx named fis refs ∧
      t = s.afterCall it f fis refs := by
  cases h with
  | load => cases hc
  | seen _ _ hin => cases hc; exact absurd hin (hnew rfl)
  | call hc' _ hstep => cases hc.symm.trans hc'; exact ⟨_, _, _, _, _, hstep, rfl⟩

theorem forall_seen_afterCall {P : String → Prop} {fis : FIS} {refs : Refs}
    (hP : ∀ f' ∈ s.seen, P f') (hf : it.isRef = true → P f) : ∀ f' ∈ (s.afterCall it f fis refs).seen, P f' := by
  unfold VisitSt.afterCall
  split
  · exact forall_mem_cons.mpr ⟨hf ‹_›, hP⟩
  · exact hP

theorem VisitStep.grows (h : VisitStep m W rec fn isig stack s it t) :
    (∃ d, t.inters = s.inters ++ d) ∧ ∃ d, t.loads = s.loads ++ d := by
  cases h with
  | load => exact ⟨⟨[], (append_nil _).symm⟩, _, rfl⟩
  | seen => exact ⟨⟨[], (append_nil _).symm⟩, [], (append_nil _).symm⟩
  | call => exact ⟨⟨_, rfl⟩, [], (append_nil _).symm⟩

end

/-! ## The items of a body -/

section
variable {m : Nat} {W : World} {rec : Analyse} {fn : Fn} {isig : Sg} {stack : List String} {st st' : VisitSt} {it : Item}
  {its : List Item}

theorem visitItems_cons_inv (h : visitItems m W rec fn isig stack st (it :: its) = .ok st') :
    ∃ t, visitItem m W rec fn isig stack st it = .ok t ∧ visitItems m W rec fn isig stack t its = .ok st' :=
  bind_ok h

theorem visitItems_append (pre its : List Item) (s0 : VisitSt) : visitItems m W rec fn isig stack s0 (pre ++ its) =
      visitItems m W rec fn isig stack s0 pre >>= fun s => visitItems m W rec fn isig stack s its := by
  induction pre generalizing s0 with
  | nil => rfl
  | cons a pre ih =>
    simp only [cons_append, visitItems]
    cases visitItem m W rec fn isig stack s0 a with
    | error e => rfl
    | ok t => exact ih t

theorem visitItems_snoc {pre : List Item} {s0 s t : VisitSt}
    (h1 : visitItems m W rec fn isig stack s0 pre = .ok s)
    (h2 : visitItem m W rec fn isig stack s it = .ok t) : visitItems m W rec fn isig stack s0 (pre ++ [it]) = .ok t := by
  rw [visitItems_append, h1]
  simp only [visitItems, ok_bind, h2]

theorem visitItems_grow (h : visitItems m W rec fn isig stack st its = .ok st') :
    (∃ d, st'.inters = st.inters ++ d) ∧ ∃ d, st'.loads = st.loads ++ d := by
  induction its generalizing st with
  | nil => cases h; exact ⟨⟨[], (append_nil _).symm⟩, [], (append_nil _).symm⟩
  | cons it its ih =>
    obtain ⟨t, h1, h2⟩ := visitItems_cons_inv h
    obtain ⟨⟨d1, e1⟩, l1, f1⟩ := (visitItem_inv h1).grows
    obtain ⟨⟨d2, e2⟩, l2, f2⟩ := ih h2
    exact ⟨⟨d1 ++ d2, by rw [e2, e1, append_assoc]⟩, l1 ++ l2, by rw [f2, f1, append_assoc]⟩

theorem visitItems_grows (h : visitItems m W rec fn isig stack st its = .ok st') :
    ∃ d, st'.inters = st.inters ++ d := (visitItems_grow h).1

theorem visitItems_loads_grow (h : visitItems m W rec fn isig stack st its = .ok st') :
    ∃ d, st'.loads = st.loads ++ d := (visitItems_grow h).2

theorem mem_inters_afterCall {s : VisitSt} {f : String} {fis : FIS} {refs : Refs} {sfin : VisitSt}
    (hr : visitItems m W rec fn isig stack (s.afterCall it f fis refs) its = .ok sfin) :
    fis.kept it.keepPath ∈ sfin.inters := by
  obtain ⟨d, hd⟩ := visitItems_grows hr
  rw [hd]; exact mem_append_left _ (mem_append_right _ mem_cons_self)

end

theorem visitItems_append_inv {m : Nat} {W : World} {rec : Analyse} {fn : Fn} {isig : Sg} {stack : List String} :
    ∀ {pre its : List Item} {s0 sfin : VisitSt}, visitItems m W rec fn isig stack s0 (pre ++ its) = .ok sfin →
    ∃ s, visitItems m W rec fn isig stack s0 pre = .ok s ∧ visitItems m W rec fn isig stack s its = .ok sfin :=
  fun h => bind_ok (visitItems_append _ _ _ ▸ h)

theorem mem_inters_of_visitItems {m : Nat} {W : World} {fuel : Nat} {fn : Fn} {isig : Sg} {stack : List String}
    {t sfin : VisitSt} {its : List Item}
    (hr : visitItems m W (analyse m W fuel) fn isig stack t its = .ok sfin) {nd : FIS} (h : nd ∈ t.inters) :
    nd ∈ sfin.inters := by
  obtain ⟨d, hd⟩ := visitItems_grows hr
  exact hd ▸ mem_append_left _ h

/-- the functions already referenced by name in this body: analysed, their trees among `nodes` (for a walk over the items:
the calls of the whole body, so that whatever holds of every call of the body holds of them) -/
def SeenIn (m : Nat) (W : World) (fuel : Nat) (nodes : List FIS) (seen : List String) : Prop :=
  ∀ f ∈ seen, ∃ (g : Fn) (ctx : ArgCtx) (fis : FIS) (rf refs0 : Refs) (stack0 : List String),
    W.find f = some g ∧ analyse m W fuel refs0 stack0 g ctx = .ok (fis, rf) ∧ fis ∈ nodes

theorem SeenIn.step {m : Nat} {W : World} {fuel : Nat} {fn : Fn} {isig : Sg} {stack : List String} {s t : VisitSt}
    {nodes : List FIS} {it : Item} (hseen : SeenIn m W fuel nodes s.seen)
    (h : VisitStep m W (analyse m W fuel) fn isig stack s it t) (hsub : ∀ nd ∈ t.inters, nd ∈ nodes) :
    SeenIn m W fuel nodes t.seen := by
  cases h with
  | load | seen => exact hseen
  | call hc _ hstep =>
    refine forall_seen_afterCall hseen fun hr' => ?_
    obtain ⟨l, rfl⟩ := Item.eq_ref hr' hc
    exact ⟨_, _, _, _, _, _, hstep.find, hstep.sub, hsub _ (mem_append_right _ mem_cons_self)⟩

/-! ## One function -/

theorem mem_dedupStr (p : String) (l : List String) : p ∈ dedupStr l ↔ p ∈ l := by
  induction l with
  | nil => exact Iff.rfl
  | cons x xs ih =>
    rw [dedupStr, mem_cons, mem_cons, mem_filter, ih]
    by_cases hx : p = x
    · exact iff_of_true (.inl hx) (.inl hx)
    · exact or_congr Iff.rfl ⟨And.left, fun h => ⟨h, decide_eq_true hx⟩⟩

section
variable {refs : Refs} {ps : List String} {d : List (String × Sg)} (h : lookupRefs refs ps = .ok d)
include h

theorem lookupRefs_spec : d.map Prod.fst = ps ∧ ∀ x ∈ d, aget refs x.1 = some x.2 := by
  induction ps generalizing d with
  | nil => cases h; exact ⟨rfl, nofun⟩
  | cons q qs ih =>
    unfold lookupRefs at h
    split at h
    · cases h
    · rename_i s hq
      obtain ⟨r, hr, h⟩ := bind_ok h
      cases h
      exact ⟨congrArg (q :: ·) (ih hr).1, forall_mem_cons.mpr ⟨hq, (ih hr).2⟩⟩

theorem lookupRefs_fst : d.map Prod.fst = ps := (lookupRefs_spec h).1

theorem lookupRefs_get : ∀ x ∈ d, aget refs x.1 = some x.2 := (lookupRefs_spec h).2

end

structure AnalyseOk (m : Nat) (W : World) (fuel : Nat) (refs : Refs) (stack : List String) (fn : Fn) (argCtx : ArgCtx)
    (fis : FIS) (refs' : Refs) (extVars : List (String × Sg)) (inputO : Option Sg) (st : VisitSt) (bodySig : Sg)
    (deps : List (String × Sg)) (ret : Sg) : Prop where
  hvars : hashVars m fn.vars = .ok extVars
  hinput : buildReturnSig none argCtx [] [] fn.exts extVars = .ok inputO
  hvisit : visitItems m W (analyse m W fuel) fn (inputO.getD (hJoin [])) stack { refs := refs } fn.items = .ok st
  hbody : hashLines m fn.lines = .ok bodySig
  hdeps : lookupRefs st.refs (dedupStr st.loads) = .ok deps
  hret : buildReturnSig (some bodySig) argCtx deps (st.inters.map FIS.retSig) fn.exts extVars = .ok (some ret)
  hfis : fis = FIS.mk fn.name ret fn.storePath st.inters deps
  hrefs : refs' = (match fn.storePath with | some p => aset st.refs p ret | none => st.refs)

section
variable {m : Nat} {W : World} {fuel : Nat} {refs : Refs} {stack : List String} {fn : Fn}

theorem analyse_inv {argCtx : ArgCtx} {fis : FIS} {refs' : Refs}
    (h : analyse m W (fuel + 1) refs stack fn argCtx = .ok (fis, refs')) :
    ∃ extVars inputO st bodySig deps ret,
      AnalyseOk m W fuel refs stack fn argCtx fis refs' extVars inputO st bodySig deps ret := by
  unfold analyse at h
  obtain ⟨extVars, h1, h⟩ := bind_ok h
  obtain ⟨inputO, h2, h⟩ := bind_ok h
  obtain ⟨st, h3, h⟩ := bind_ok h
  obtain ⟨bodySig, h4, h⟩ := bind_ok h
  obtain ⟨deps, h5, h⟩ := bind_ok h
  obtain ⟨retO, h6, h⟩ := bind_ok h
  cases retO with
  | none => simp at h
  | some ret =>
    simp only [pure, Except.pure, Except.ok.injEq, Prod.mk.injEq] at h
    exact ⟨extVars, inputO, st, bodySig, deps, ret, ⟨h1, liftS_ok h2, h3, h4, h5, liftS_ok h6, h.1.symm, h.2.symm⟩⟩

theorem analyse_zero {argCtx : ArgCtx} {r : FIS × Refs} : analyse m W 0 refs stack fn argCtx ≠ .ok r := by
  simp [analyse]

/-- a successful analysis had fuel left (`analyse_inv` at any fuel) -/
theorem analyse_ok {ctx : ArgCtx} {fis : FIS} {r : Refs} (h : analyse m W fuel refs stack fn ctx = .ok (fis, r)) :
    ∃ k ev io st b d ret, fuel = k + 1 ∧ AnalyseOk m W k refs stack fn ctx fis r ev io st b d ret := by
  cases fuel with
  | zero => exact absurd h analyse_zero
  | succ k =>
    obtain ⟨ev, io, st, b, d, ret, a⟩ := analyse_inv h
    exact ⟨k, ev, io, st, b, d, ret, rfl, a⟩

end

section
variable {m W fuel refs stack fn argCtx fis refs' extVars inputO st bodySig deps ret}
  (h : AnalyseOk m W fuel refs stack fn argCtx fis refs' extVars inputO st bodySig deps ret)
include h

theorem AnalyseOk.retSig : fis.retSig = ret := by rw [h.hfis]; rfl
theorem AnalyseOk.subs : fis.subs = st.inters := by rw [h.hfis]; rfl
theorem AnalyseOk.loads : fis.loads = deps := by rw [h.hfis]; rfl
theorem AnalyseOk.storePath : fis.storePath = fn.storePath := by rw [h.hfis]; rfl

theorem AnalyseOk.allLoads : fis.allLoads = deps.map Prod.fst ++ FIS.allLoadsL st.inters := by rw [h.hfis]; rfl

theorem AnalyseOk.loads_sub : ∀ p, p ∈ st.loads → p ∈ fis.allLoads := fun p hp => by
  rw [h.allLoads, lookupRefs_fst h.hdeps]
  exact mem_append_left _ ((mem_dedupStr p _).mpr hp)

theorem AnalyseOk.subLoads_sub : ∀ p, p ∈ FIS.allLoadsL st.inters → p ∈ fis.allLoads := fun p hp => by
  rw [h.allLoads]; exact mem_append_right _ hp

end

theorem analyse_storePath {m : Nat} {W : World} {fuel : Nat} {refs : Refs} {stack : List String} {fn : Fn} {ctx : ArgCtx}
    {fis : FIS} {r : Refs} (h : analyse m W fuel refs stack fn ctx = .ok (fis, r)) : fis.storePath = fn.storePath := by
  obtain ⟨_, _, _, _, _, _, _, _, a⟩ := analyse_ok h
  exact a.storePath

theorem pathsOK_kept {m : Nat} {W : World} {fuel : Nat} {refs : Refs} {stack : List String} {g : Fn} {ctx : ArgCtx}
    {fis : FIS} {rf : Refs} (ha : analyse m W fuel refs stack g ctx = .ok (fis, rf)) (paths : List (String × Sg))
    (kp : Option String) :
    FIS.pathsOK paths (fis.kept kp) ↔
      (∀ w, kp.or g.storePath = some w → aget paths w = some fis.retSig) ∧ FIS.pathsOKL paths fis.subs := by
  rw [pathsOK_iff, FIS.kept_storePath, FIS.kept_retSig, FIS.kept_subs, analyse_storePath ha]

/-! ## The analysis phase; `analysisWith_eq` and `analysisPhase_eq` write it as a chain of binds -/

theorem fetchPaths_spec {S : PStore} {ps : List String} {r : Refs} (h : fetchPaths S ps = .ok r) :
    ∀ x ∈ r, aget S.paths x.1 = some x.2 := by
  induction ps generalizing r with
  | nil => cases h; nofun
  | cons q qs ih =>
    unfold fetchPaths at h
    split at h
    · cases h
    · rename_i k hq
      obtain ⟨r', hr', h⟩ := bind_ok h
      cases h
      exact forall_mem_cons.mpr ⟨hq, ih hr'⟩

theorem fetchPaths_congr {S S' : PStore} {ps : List String} (h : ∀ p ∈ ps, aget S.paths p = aget S'.paths p) :
    fetchPaths S ps = fetchPaths S' ps := by
  induction ps with
  | nil => rfl
  | cons p ps ih =>
    unfold fetchPaths
    rw [h p List.mem_cons_self, ih fun q hq => h q (List.mem_cons_of_mem _ hq)]

theorem analysisWith_eq (m : Nat) (W : World) (rq : Request) (fn : Fn) (named : List (String × Option Sg)) (refs0 : Refs) :
    analysisWith m W rq fn named refs0 = (do
      let (fis, _) ← analyse m W W.fuel refs0 [] fn ⟨named, none⟩
      let paths ← allStorePaths [] (match entryPathOf rq fn with | some p => fis.withPath p | none => fis)
      if nonTerminalLeaves (paths.map (fun pk => segsOf pk.1)) ≠ [] then .error .overlappingPath else
      match bindRun fn.params (rq.args.map RVal.py) (rq.kwargs.map (fun kv => (kv.1, RVal.py kv.2))) 0 with
      | none => .error .missingArg
      | some env => .ok (fn, env, (match entryPathOf rq fn with | some p => fis.withPath p | none => fis), paths)) := by
  unfold analysisWith
  cases analyse m W W.fuel refs0 [] fn ⟨named, none⟩ with
  | error e => rfl
  | ok r =>
    obtain ⟨fis, _⟩ := r
    dsimp only [ok_bind]
    cases allStorePaths [] (match entryPathOf rq fn with | some p => fis.withPath p | none => fis) <;> rfl

theorem analysisPhase_eq (m : Nat) (W : World) (S : PStore) (rq : Request) :
    analysisPhase m W S rq =
      match W.find rq.fn with
      | none => .error .objectNotFound
      | some fn =>
        if badEntryPath rq fn then .error .pathNotAbsolute else (do
        let named ← liftA (getArgCtx m fn.params rq.args rq.kwargs)
        let ind ← indirectFn W W.fuel [] ({}, []) fn
        let _ ← orderFn W ind.1.stores W.fuel [] fn
        let refs0 ← fetchPaths S (loadsToCheck ind.1)
        analysisWith m W rq fn named refs0) := by
  unfold analysisPhase
  cases W.find rq.fn with
  | none => rfl
  | some fn =>
    dsimp only
    split
    · rfl
    · cases liftA (getArgCtx m fn.params rq.args rq.kwargs) with
      | error e => rfl
      | ok named =>
        dsimp only [ok_bind]
        cases indirectFn W W.fuel [] ({}, []) fn with
        | error e => rfl
        | ok ind =>
          dsimp only [ok_bind]
          cases orderFn W ind.1.stores W.fuel [] fn with
          | error e => rfl
          | ok _ => dsimp only [ok_bind]; cases fetchPaths S (loadsToCheck ind.1) <;> rfl

/-- the store enters the analysis through one call only: `fetchPaths` on the paths the evaluation loads without producing them -/
theorem analysisPhase_congr (m : Nat) (W : World) (S S' : PStore) (rq : Request)
    (h : ∀ fn ind done, W.find rq.fn = some fn → indirectFn W W.fuel [] ({}, []) fn = .ok (ind, done) →
      fetchPaths S (loadsToCheck ind) = fetchPaths S' (loadsToCheck ind)) :
    analysisPhase m W S rq = analysisPhase m W S' rq := by
  unfold analysisPhase
  cases hf : W.find rq.fn with
  | none => rfl
  | some fn =>
    dsimp only
    cases hi : indirectFn W W.fuel [] ({}, []) fn with
    | error e => rfl
    | ok r =>
      obtain ⟨ind, done⟩ := r
      simp only [h fn ind done hf hi]

structure PhaseOk (m : Nat) (W : World) (S : PStore) (rq : Request) (fn : Fn) (env : Env) (fis' : FIS)
    (paths : List (String × Sg)) (named : List (String × Option Sg)) (refs0 : Refs) (fis : FIS) (r : Refs) : Prop where
  hfind : W.find rq.fn = some fn
  hnamed : getArgCtx m fn.params rq.args rq.kwargs = .ok named
  hana : analyse m W W.fuel refs0 [] fn ⟨named, none⟩ = .ok (fis, r)
  hfis : fis' = fis.kept (entryPathOf rq fn)
  hpaths : allStorePaths [] fis' = .ok paths
  hbind : bindRun fn.params (rq.args.map RVal.py) (rq.kwargs.map (fun kv => (kv.1, RVal.py kv.2))) 0 = some env
  hrefs0 : ∀ p s, aget refs0 p = some s → aget S.paths p = some s

section
variable {m : Nat} {W : World} {S : PStore} {rq : Request} {fn : Fn} {env : Env} {fis' : FIS} {paths : List (String × Sg)}

theorem analysisPhase_inv (h : analysisPhase m W S rq = .ok (fn, env, fis', paths)) :
    ∃ named refs0 fis r, PhaseOk m W S rq fn env fis' paths named refs0 fis r := by
  rw [analysisPhase_eq] at h
  split at h
  · cases h
  · rename_i fn0 hf
    split at h
    · cases h
    · obtain ⟨named, hn, h⟩ := bind_ok h
      obtain ⟨ind, _, h⟩ := bind_ok h
      obtain ⟨_, _, h⟩ := bind_ok h
      obtain ⟨refs0, hp, h⟩ := bind_ok h
      rw [analysisWith_eq] at h
      obtain ⟨⟨fis, r⟩, ha, h⟩ := bind_ok h
      obtain ⟨paths0, hs, h⟩ := bind_ok h
      split at h
      · cases h
      · split at h
        · cases h
        · rename_i env0 hbd
          cases h
          exact ⟨named, refs0, fis, r, ⟨hf, liftA_ok hn, ha, by cases entryPathOf rq fn <;> rfl, hs, hbd,
            fun p s hr => fetchPaths_spec hp (p, s) (aget_mem hr)⟩⟩

variable {named : List (String × Option Sg)} {refs0 : Refs} {fis : FIS} {r : Refs}
  (P : PhaseOk m W S rq fn env fis' paths named refs0 fis r)
include P

theorem PhaseOk.pathsOK : FIS.pathsOK paths fis' := (allStorePaths_ok fis' [] paths P.hpaths).2 paths fun _ _ h => h

theorem PhaseOk.retSig : fis'.retSig = fis.retSig := by rw [P.hfis, FIS.kept_retSig]
theorem PhaseOk.subs : fis'.subs = fis.subs := by rw [P.hfis, FIS.kept_subs]
theorem PhaseOk.allLoads : fis'.allLoads = fis.allLoads := by rw [P.hfis, kept_allLoads]

theorem PhaseOk.key {p : String} (hp : fis'.storePath = some p) : aget paths p = some fis.retSig :=
  P.retSig ▸ ((pathsOK_iff paths fis').mp P.pathsOK).1 p hp

theorem PhaseOk.pathsOKL : FIS.pathsOKL paths fis.subs :=
  P.subs ▸ ((pathsOK_iff paths fis').mp P.pathsOK).2

end

end Dds
