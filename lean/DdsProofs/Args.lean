import DdsProofs.Hash
import DdsModel.Sig
/-! Lemmas for C13: on plain parameters the direct route computes `hashBinding ∘ bind`; where it succeeds, the source route
returns the same for the same values written as literals (with an argument missing the first raises, the second records no hash). -/
namespace Dds
open List

theorem argDirect_eq (m : Nat) (args : List PyVal) (kw : List (String × PyVal)) (idx : Nat) (p : Param)
    (hp : p.kind = .posOrKw) :
    argDirect m args kw idx p =
      (match bindOne args kw idx p with
       | some v => do let h ← liftHash (ddsHash m v); pure (some h)
       | none => .error .missingArg) := by
  unfold argDirect bindOne
  simp only [hp, ne_eq, not_true_eq_false, false_and, if_false]
  cases args[idx]? with
  | some v => rfl
  | none =>
    cases lookupKw p.name kw with
    | some v => rfl
    | none => cases p.default with
      | some d => rfl
      | none => simp

theorem getArgCtxFrom_eq (m : Nat) (args : List PyVal) (kw : List (String × PyVal)) (ps : List Param) (idx : Nat)
    (h : plainParams ps = true) : getArgCtxFrom m args kw idx ps = hashBinding m (bindFrom args kw idx ps) := by
  induction ps generalizing idx with
  | nil => rfl
  | cons p ps ih =>
    obtain ⟨hp1, hp2⟩ := Bool.and_eq_true_iff.mp (all_cons.symm.trans h)
    rw [getArgCtxFrom, bindFrom, argDirect_eq m args kw idx p (of_decide_eq_true hp1), ih (idx + 1) hp2]
    cases bindOne args kw idx p with
    | none => rfl
    | some v =>
      simp only [hashBinding]
      cases liftHash (ddsHash m v) <;> rfl

theorem getArgCtx_eq (m : Nat) (ps : List Param) (args : List PyVal) (kw : List (String × PyVal))
    (h : plainParams ps = true) : getArgCtx m ps args kw = hashBinding m (bind ps args kw) :=
  getArgCtxFrom_eq m args kw ps 0 h

theorem lookupKw_map {α β} (f : α → β) (n : String) (l : List (String × α)) :
    lookupKw n (l.map (fun kv => (kv.1, f kv.2))) = (lookupKw n l).map f := by
  induction l with
  | nil => rfl
  | cons kv l ih =>
    simp only [map_cons, lookupKw]
    split
    · rfl
    · exact ih

def constArgs (args : List PyVal) : List AstArg := args.map .const
def constKw (kw : List (String × PyVal)) : List (String × AstArg) := kw.map (fun kv => (kv.1, .const kv.2))

theorem allConst_constArgs (l : List PyVal) : allConst (constArgs l) = some l := by
  induction l with
  | nil => rfl
  | cons a l ih => rw [constArgs, map_cons, allConst, ← constArgs, ih]; rfl

/-- for a plain parameter, what the direct route hashes is what the source route hashes when every argument is a literal -/
theorem argAst_of_argDirect {m : Nat} {args : List PyVal} {kw : List (String × PyVal)} {idx : Nat} {p : Param}
    (hp : p.kind = .posOrKw) {h : Option Sg} (e : argDirect m args kw idx p = .ok h) :
    argAst m (constArgs args) (constKw kw) idx p = .ok h := by
  unfold argDirect at e
  unfold argAst constArgs constKw
  simp only [hp, ne_eq, not_true_eq_false, false_and, if_false, getElem?_map, lookupKw_map, reduceCtorEq] at e ⊢
  revert e
  cases args[idx]? with
  | some v => exact id
  | none =>
    cases lookupKw p.name kw with
    | some v => exact id
    | none => cases p.default with
      | some d => exact id
      | none => exact nofun

theorem getArgCtxAstFrom_const (m : Nat) (args : List PyVal) (kw : List (String × PyVal)) (ps : List Param) (idx : Nat)
    (c : List (String × Option Sg)) (hp : plainParams ps = true) (h : getArgCtxFrom m args kw idx ps = .ok c) :
    getArgCtxAstFrom m (constArgs args) (constKw kw) idx ps = .ok c := by
  induction ps generalizing idx c with
  | nil => exact h
  | cons p ps ih =>
    obtain ⟨hp1, hp2⟩ := Bool.and_eq_true_iff.mp (all_cons.symm.trans hp)
    obtain ⟨hv, e1, h⟩ := bind_ok h
    obtain ⟨rest, e2, h⟩ := bind_ok h
    rw [getArgCtxAstFrom, argAst_of_argDirect (of_decide_eq_true hp1) e1, ih (idx + 1) rest hp2 e2]
    exact h

/-- canonical form of a binding: what its signature can see -/
def canonBinding : List (String × Option PyVal) → List (String × Option CVal)
  | [] => []
  | (n, v) :: bs => (n, v.map canonKF) :: canonBinding bs

theorem liftHash_ok {α} {x : Except HashErr α} {a : α} (h : liftHash x = .ok a) : x = .ok a := by
  cases x with
  | ok b =>
    cases h
    rfl
  | error e => nomatch h

theorem hashBinding_cons {m : Nat} {n : String} {v : Option PyVal} {bs : List (String × Option PyVal)}
    {c : List (String × Option Sg)} (h : hashBinding m ((n, v) :: bs) = .ok c) :
    ∃ x hx r, v = some x ∧ ddsHash m x = .ok hx ∧ hashBinding m bs = .ok r ∧ c = (n, some hx) :: r := by
  cases v with
  | none => cases h
  | some x =>
    obtain ⟨hx, e, h⟩ := bind_ok h
    obtain ⟨r, hr, h⟩ := bind_ok h
    exact ⟨x, hx, r, rfl, liftHash_ok e, hr, (Except.ok.inj h).symm⟩

theorem hashBinding_inj (m : Nat) (b₁ b₂ : List (String × Option PyVal)) (c : List (String × Option Sg))
    (h1 : hashBinding m b₁ = .ok c) (h2 : hashBinding m b₂ = .ok c) : canonBinding b₁ = canonBinding b₂ := by
  induction b₁ generalizing b₂ c with
  | nil =>
    cases h1
    cases b₂ with
    | nil => rfl
    | cons nv _ => obtain ⟨_, _, _, _, _, _, e⟩ := hashBinding_cons (n := nv.1) (v := nv.2) h2; cases e
  | cons nv bs ih =>
    obtain ⟨n, v⟩ := nv
    obtain ⟨x, hx, r, rfl, e1, hr1, rfl⟩ := hashBinding_cons h1
    cases b₂ with
    | nil => cases h2
    | cons nw bs' =>
      obtain ⟨n', w⟩ := nw
      obtain ⟨y, _, _, rfl, e2, hr2, e⟩ := hashBinding_cons h2
      cases e
      simp only [canonBinding, Option.map_some, ddsHash_inj e1 e2, ih _ _ hr1 hr2]

theorem allSome_map_some (c : List (String × Sg)) :
    allSome (c.map (fun p => (p.1, some p.2))) = some c := by
  induction c with
  | nil => rfl
  | cons p c ih => obtain ⟨n, h⟩ := p; simp [allSome, ih]

theorem argPairs_known (c : List (String × Sg)) (i : Option Sg) :
    argPairs ⟨c.map (fun p => (p.1, some p.2)), i⟩ = .ok (c.map (fun p => ("arg_" ++ p.1, p.2))) := by
  simp [argPairs, allSome_map_some]

end Dds
