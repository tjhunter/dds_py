import DdsProofs.EnvSound
/-!
# Calls whose arguments are all known to the analysis

The analysis hashes, for every parameter, the literal written at the call or the default (`argAst`); run-time binding gives
the parameter the value of the argument expression or the default (`bindRun` over `zipArgs`, `zipKw`). Both look the
argument up in the same way (position, keyword, default), and the value of a literal is the literal: when the analysis knows
every argument, the call is run with exactly the values whose hashes are in its signature (`Chain.of_consts`).
-/
namespace Dds
open List

/-! ## The run-time value of an argument list -/

section
variable (results : List RVal) (env : Env)

theorem zipArgs_cons (a : AstArg) (as : List AstArg) (rtA : List (Option RtExpr)) :
    zipArgs results env (a :: as) rtA = argValue results env a rtA.head?.join :: zipArgs results env as rtA.tail := by
  cases rtA <;> rfl

theorem zipKw_cons (n : String) (a : AstArg) (as : List (String × AstArg))
    (rtK : List (String × Option RtExpr)) :
    zipKw results env ((n, a) :: as) rtK =
      (n, argValue results env a (rtK.head?.bind Prod.snd)) :: zipKw results env as rtK.tail := by
  cases rtK <;> rfl

theorem zipArgs_get (args : List AstArg) (rtA : List (Option RtExpr)) (i : Nat) :
    ∃ r, (zipArgs results env args rtA)[i]? = args[i]?.map (argValue results env · r) := by
  induction args generalizing rtA i with
  | nil => exact ⟨none, rfl⟩
  | cons a as ih =>
    rw [zipArgs_cons]
    cases i with
    | zero => exact ⟨_, rfl⟩
    | succ i =>
      rw [getElem?_cons_succ, getElem?_cons_succ]
      exact ih rtA.tail i

theorem zipKw_get (n : String) (kwargs : List (String × AstArg))
    (rtK : List (String × Option RtExpr)) :
    ∃ r, lookupKw n (zipKw results env kwargs rtK) = (lookupKw n kwargs).map (argValue results env · r) := by
  induction kwargs generalizing rtK with
  | nil => exact ⟨none, rfl⟩
  | cons ka as ih =>
    obtain ⟨k, a⟩ := ka
    simp only [zipKw_cons, lookupKw]
    split
    · exact ⟨_, rfl⟩
    · exact ih rtK.tail

theorem zipArgs_consts (args : List PyVal) :
    zipArgs results env (constArgs args) [] = args.map RVal.py := by
  induction args with
  | nil => rfl
  | cons a as ih => exact congrArg (RVal.py a :: ·) ih

theorem zipKw_consts (kw : List (String × PyVal)) :
    zipKw results env (constKw kw) [] = kw.map (fun kv => (kv.1, RVal.py kv.2)) := by
  induction kw with
  | nil => rfl
  | cons na as ih => exact congrArg ((na.1, RVal.py na.2) :: ·) ih

end

/-! ## One parameter -/

theorem lookupKw_mem {α} {n : String} {a : α} {l : List (String × α)} (h : lookupKw n l = some a) : (n, a) ∈ l := by
  induction l with
  | nil => cases h
  | cons kb l ih =>
    simp only [lookupKw] at h
    split at h
    next hk =>
      cases h
      subst hk
      exact mem_cons_self
    next => exact mem_cons_of_mem _ (ih h)

theorem processArg_some {m : Nat} {a : AstArg} {h : Sg} (e : processArg m a = .ok (some h)) :
    ∃ v, a = .const v ∧ ddsHash m v = .ok h := by
  cases a with
  | other => cases e
  | const v =>
    obtain ⟨h', e1, e2⟩ := bind_ok e
    cases e2
    exact ⟨v, rfl, liftHash_ok e1⟩

/-- the value run-time binding gives a parameter (the `let v` of `bindRun`): positional, keyword, default -/
def pick (p : Param) (pos : List RVal) (kw : List (String × RVal)) (idx : Nat) : Option RVal :=
  match pos[idx]? with
  | some v => some v
  | none => match lookupKw p.name kw with
    | some v => some v
    | none => p.default.map RVal.py

theorem bindRun_cons_inv {p : Param} {rest : List Param} {pos : List RVal} {kw : List (String × RVal)} {idx : Nat} {env' : Env}
    (h : bindRun (p :: rest) pos kw idx = some env') :
    ∃ v envr, pick p pos kw idx = some v ∧ bindRun rest pos kw (idx + 1) = some envr ∧ env' = (p.name, v) :: envr := by
  change (match pick p pos kw idx, bindRun rest pos kw (idx + 1) with
    | some v, some env => some ((p.name, v) :: env)
    | _, _ => none) = some env' at h
  split at h
  next v envr hv hr => exact ⟨v, envr, hv, hr, (Option.some.inj h).symm⟩
  next => cases h

/-- a parameter whose hash the analysis knows is given, at run time, the value with that hash: a literal written at the call,
or the default -/
theorem argAst_pick {m : Nat} {args : List AstArg} {kwargs : List (String × AstArg)} {idx : Nat} {p : Param} {h : Sg}
    (results : List RVal) (env : Env) (rtA : List (Option RtExpr)) (rtK : List (String × Option RtExpr))
    (hkind : p.kind = .posOrKw) (e : argAst m args kwargs idx p = .ok (some h)) :
    ∃ v, ddsHash m v = .ok h ∧ pick p (zipArgs results env args rtA) (zipKw results env kwargs rtK) idx = some (.py v) ∧
      (AstArg.const v ∈ args ∨ (∃ n, (n, AstArg.const v) ∈ kwargs) ∨ p.default = some v) := by
  obtain ⟨r1, h1⟩ := zipArgs_get results env args rtA idx
  obtain ⟨r2, h2⟩ := zipKw_get results env p.name kwargs rtK
  unfold argAst at e
  simp only [hkind, ne_eq, not_true_eq_false, false_and, if_false, reduceCtorEq] at e
  unfold pick
  rw [h1, h2]
  cases ha : args[idx]? with
  | some a =>
    rw [ha] at e
    obtain ⟨v, rfl, hv⟩ := processArg_some e
    exact ⟨v, hv, rfl, .inl (mem_of_getElem? ha)⟩
  | none =>
    rw [ha] at e
    cases hk : lookupKw p.name kwargs with
    | some a =>
      rw [hk] at e
      obtain ⟨v, rfl, hv⟩ := processArg_some e
      exact ⟨v, hv, rfl, .inr (.inl ⟨_, lookupKw_mem hk⟩)⟩
    | none =>
      rw [hk] at e
      cases hd : p.default with
      | none => rw [hd] at e; cases e
      | some d =>
        rw [hd] at e
        obtain ⟨h', e1, e2⟩ := bind_ok e
        cases e2
        exact ⟨d, liftHash_ok e1, rfl, .inr (.inr rfl)⟩

/-! ## All parameters -/

theorem allSome_cons_some {α β} {a : α} {b : Option β} {xs : List (α × Option β)} {kvs : List (α × β)}
    (h : allSome ((a, b) :: xs) = some kvs) : ∃ b' kvs', b = some b' ∧ allSome xs = some kvs' := by
  cases b with
  | none => cases h
  | some b' =>
    obtain ⟨kvs', hx, _⟩ := Option.map_eq_some_iff.mp h
    exact ⟨b', kvs', rfl, hx⟩

theorem plainParams_mem {ps : List Param} (h : plainParams ps = true) : ∀ p ∈ ps, p.kind = .posOrKw := by
  intro p hp
  simpa using (List.all_eq_true.mp h) p hp

theorem const_case (U : Universe) {m : Nat} {args : List AstArg} {kwargs : List (String × AstArg)}
    {results : List RVal} {env : Env} {rtA : List (Option RtExpr)} {rtK : List (String × Option RtExpr)}
    (hargs : ∀ v, AstArg.const v ∈ args → U.avals v) (hkw : ∀ n v, (n, AstArg.const v) ∈ kwargs → U.avals v)
    (ps : List Param) (hd : ∀ p ∈ ps, ∀ d, p.default = some d → U.avals d) (hkinds : ∀ p ∈ ps, p.kind = .posOrKw)
    {idx : Nat} {named : List (String × Option Sg)} {kvs : List (String × Sg)} {env' : Env}
    (hn : getArgCtxAstFrom m args kwargs idx ps = .ok named) (hall : allSome named = some kvs)
    (hb : bindRun ps (zipArgs results env args rtA) (zipKw results env kwargs rtK) idx = some env') :
    ∃ vals : Vals, named = vals.named ∧ env' = vals.env ∧ vals.map (fun x => x.1) = ps.map Param.name ∧
      ∀ x ∈ vals, ddsHash m x.2.1 = .ok x.2.2 ∧ U.avals x.2.1 := by
  induction ps generalizing idx named kvs env' with
  | nil =>
    cases hn
    cases hb
    exact ⟨[], rfl, rfl, rfl, fun _ h => nomatch h⟩
  | cons p ps ih =>
    unfold getArgCtxAstFrom at hn
    obtain ⟨h, e1, hn⟩ := bind_ok hn
    obtain ⟨rest, e2, hn⟩ := bind_ok hn
    cases hn
    obtain ⟨hh, kvs', rfl, hall'⟩ := allSome_cons_some hall
    obtain ⟨v', envr, hp, hr, rfl⟩ := bindRun_cons_inv hb
    obtain ⟨v, hv, hpick, hsrc⟩ := argAst_pick results env rtA rtK (hkinds p mem_cons_self) e1
    cases hpick.symm.trans hp
    obtain ⟨vals, rfl, rfl, r3, r4⟩ := ih (fun q hq => hd q (mem_cons_of_mem _ hq))
      (fun q hq => hkinds q (mem_cons_of_mem _ hq)) e2 hall' hr
    have hval : U.avals v := by
      rcases hsrc with h1 | ⟨n, h2⟩ | h3
      · exact hargs v h1
      · exact hkw n v h2
      · exact hd p mem_cons_self v h3
    exact ⟨(p.name, v, hh) :: vals, rfl, rfl, congrArg (p.name :: ·) r3, forall_mem_cons.mpr ⟨⟨hv, hval⟩, r4⟩⟩

/-- a call whose arguments are all known to the analysis is chained: it is run with the values whose hashes are in its
signature -/
theorem Chain.of_consts (U : Universe) {m : Nat} (Ω : Blobs) (W : World) {g : Fn} (hUg : U.fns g) (inner : Option Sg)
    {args : List AstArg} {kwargs : List (String × AstArg)} {results : List RVal} {env : Env} {rtA : List (Option RtExpr)}
    {rtK : List (String × Option RtExpr)} (hargs : ∀ v, AstArg.const v ∈ args → U.avals v)
    (hkw : ∀ n v, (n, AstArg.const v) ∈ kwargs → U.avals v) {named : List (String × Option Sg)}
    (hn : getArgCtxAst m g.params args kwargs = .ok named) {kvs : List (String × Sg)} (hall : allSome named = some kvs)
    {env' : Env} (hb : bindRun g.params (zipArgs results env args rtA) (zipKw results env kwargs rtK) 0 = some env') :
    Chain U m Ω W g ⟨named, inner⟩ env' := by
  obtain ⟨vals, rfl, rfl, r3, r4⟩ := const_case U hargs hkw g.params
    (U.defaultsIn g hUg) (plainParams_mem (U.plainParams g hUg)) hn hall hb
  exact Chain.const W g inner vals r3 r4

theorem callee_consts {it : Item} {f : String} {args kwargs rtA rtK} (h : it.callee = some (f, args, kwargs, rtA, rtK))
    {v : PyVal} (hv : AstArg.const v ∈ args ∨ ∃ n, (n, AstArg.const v) ∈ kwargs) : it.hasConst v := by
  cases it with
  | callArgs | keep =>
    cases h
    exact hv
  | call | ref =>
    cases h
    rcases hv with h | ⟨_, h⟩ <;> cases h
  | load | evalCall => cases h

/-- the chain of an entry call -/
theorem root_chain (U : Universe) {m : Nat} (Ω : Blobs) (W : World) {fn : Fn} (hU : U.fns fn) {args : List PyVal}
    {kwargs : List (String × PyVal)} (hargs : ∀ a ∈ args, U.avals a) (hkw : ∀ kv ∈ kwargs, U.avals kv.2)
    {named : List (String × Option Sg)} (hn : getArgCtx m fn.params args kwargs = .ok named)
    {kvs : List (String × Sg)} (hall : allSome named = some kvs)
    {env : Env} (hb : bindRun fn.params (args.map RVal.py) (kwargs.map (fun kv => (kv.1, RVal.py kv.2))) 0 = some env) :
    Chain U m Ω W fn ⟨named, none⟩ env := by
  rw [← zipArgs_consts [] [] args, ← zipKw_consts [] [] kwargs] at hb
  refine .of_consts U Ω W hU none (fun v hv => ?_) (fun n v hv => ?_)
    (getArgCtxAstFrom_const m args kwargs fn.params 0 named (U.plainParams fn hU) hn) hall hb
  · obtain ⟨a, ha, e⟩ := mem_map.mp hv
    cases e; exact hargs _ ha
  · obtain ⟨kv, hkv, e⟩ := mem_map.mp hv
    cases e; exact hkw kv hkv

theorem argPairs_allSome {a : ArgCtx} {pa : List (String × Sg)} (h : argPairs a = .ok pa) (hi : a.inner = none) :
    ∃ kvs, allSome a.named = some kvs := by
  unfold argPairs at h
  cases hs : allSome a.named with
  | some kvs => exact ⟨kvs, rfl⟩
  | none => simp only [hs, hi, reduceCtorEq] at h

end Dds
