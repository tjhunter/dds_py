import DdsModel.Assoc
import DdsModel.StoreSpec
/-!
Finite maps as association lists. The model has one lookup per key type (`aget`, `lget`, `sgGet`, `tget`), each the
instance of `kvGet` at its key type, and writes "set" as cons onto the list without the key. Everything is proved once
for `kvGet`; `aget_eq` and its like carry it to the instances.
-/
namespace Dds
open List

section
universe u v
variable {κ : Type u} {α : Type v} [DecidableEq κ] {l : List (κ × α)} {k k' : κ} {v : α}

theorem kvGet_cons :
    kvGet ((k', v) :: l) k = if k' = k then some v else kvGet l k := rfl

theorem kvGet_del :
    kvGet (l.filter (fun kv => kv.1 ≠ k)) k' = if k = k' then none else kvGet l k' := by
  induction l with
  | nil => exact (ite_self _).symm
  | cons a l ih =>
    obtain ⟨a1, a2⟩ := a
    by_cases ha : a1 = k
    · rw [filter_cons_of_neg (by simpa using ha), ih, kvGet_cons, ha]
      split <;> rfl
    · rw [filter_cons_of_pos (by simpa using ha), kvGet_cons, kvGet_cons, ih]
      by_cases e : a1 = k'
      · rw [if_pos e, if_pos e, if_neg (fun e' => ha (e.trans e'.symm))]
      · rw [if_neg e, if_neg e]

theorem kvGet_put :
    kvGet ((k, v) :: l.filter (fun kv => kv.1 ≠ k)) k' = if k = k' then some v else kvGet l k' := by
  rw [kvGet_cons, kvGet_del]; split <;> rfl

theorem kvGet_mem (h : kvGet l k = some v) : (k, v) ∈ l := by
  induction l with
  | nil => cases h
  | cons a l ih =>
    obtain ⟨a1, a2⟩ := a
    rw [kvGet_cons] at h
    split at h
    · rename_i e; cases h; subst e; exact mem_cons_self
    · exact mem_cons_of_mem _ (ih h)

theorem kvGet_eq_none : kvGet l k = none ↔ ∀ kv ∈ l, kv.1 ≠ k := by
  induction l with
  | nil => simp only [kvGet, not_mem_nil, false_imp_iff, implies_true]
  | cons a l ih =>
    obtain ⟨a1, a2⟩ := a
    rw [kvGet_cons, forall_mem_cons]
    split
    · rename_i e; simp only [reduceCtorEq, e, ne_eq, not_true_eq_false, false_and]
    · rename_i e; simp only [ih, ne_eq, e, not_false_eq_true, true_and]

theorem kvGet_append {l' : List (κ × α)} :
    kvGet (l ++ l') k = (kvGet l k).orElse fun _ => kvGet l' k := by
  induction l with
  | nil => rfl
  | cons a l ih => obtain ⟨a1, a2⟩ := a; simp only [cons_append, kvGet_cons, ih]; split <;> rfl

theorem kvGet_of_mem_nodup (hm : (k, v) ∈ l) (hnd : (l.map Prod.fst).Nodup) :
    kvGet l k = some v := by
  induction l with
  | nil => cases hm
  | cons a l ih =>
    obtain ⟨a1, a2⟩ := a
    rw [map_cons, nodup_cons] at hnd
    rw [kvGet_cons]
    rcases mem_cons.mp hm with h | h
    · cases h; rw [if_pos rfl]
    · rw [if_neg (fun e : a1 = k => hnd.1 (mem_map.mpr ⟨(k, v), h, e.symm⟩)), ih h hnd.2]

/-- a lookup written out again at one key type is `kvGet` -/
theorem eq_kvGet (get : List (κ × α) → κ → Option α) (hnil : ∀ k, get [] k = none)
    (hcons : ∀ k' v l k, get ((k', v) :: l) k = if k' = k then some v else get l k) (l : List (κ × α)) (k : κ) :
    get l k = kvGet l k := by
  induction l with
  | nil => exact hnil k
  | cons a l ih => rw [hcons, ih]; rfl
end

section
universe u
variable {α : Type u} (l : List (String × α)) (k k' : String) (v : α)

theorem aget_eq : aget l k = kvGet l k :=
  eq_kvGet aget (fun _ => rfl) (fun _ _ _ _ => rfl) l k

theorem aget_aset :
    aget (aset l k v) k' = if k = k' then some v else aget l k' := by
  rw [aget_eq, aget_eq, aset, kvGet_put]

theorem aget_aset_eq : aget (aset l k v) k = some v := by
  rw [aget_aset, if_pos rfl]

theorem aget_aset_ne (h : k' ≠ k) :
    aget (aset l k v) k' = aget l k' := by
  rw [aget_aset, if_neg (Ne.symm h)]

variable {l k v}

theorem aget_mem (h : aget l k = some v) : (k, v) ∈ l :=
  kvGet_mem (aget_eq l k ▸ h)

theorem not_mem_of_aget_none (h : aget l k = none) : ∀ pk ∈ l, pk.1 ≠ k :=
  kvGet_eq_none.mp (aget_eq l k ▸ h)

theorem aget_of_mem_nodup (hm : (k, v) ∈ l) (hnd : (l.map Prod.fst).Nodup) :
    aget l k = some v :=
  aget_eq l k ▸ kvGet_of_mem_nodup hm hnd
end

theorem aget_snoc {α} {l : List (String × α)} {q : String} (hq : aget l q = none) (s : α) (p : String) (k : α) :
    aget (l ++ [(q, s)]) p = some k ↔ aget l p = some k ∨ (p, k) = (q, s) := by
  rw [aget_eq, kvGet_append, ← aget_eq, kvGet_cons, Prod.mk.injEq]
  by_cases e : q = p
  · subst e
    rw [if_pos rfl, hq]
    exact ⟨fun h => .inr ⟨rfl, (Option.some.inj h).symm⟩, fun h => h.elim nofun fun e' => e'.2 ▸ rfl⟩
  · rw [if_neg e]
    cases aget l p <;> exact ⟨.inl, fun h => h.elim id fun e' => absurd e'.1.symm e⟩

end Dds
