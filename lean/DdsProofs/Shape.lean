import DdsProofs.SigSound
/-!
# The signature determines the shape of the interaction tree

Two analysed calls with the same return signature have interaction trees of the same shape (`SameShape`): the same calls
below are kept, at the same paths, with the same signatures, and every body loads the same paths, resolved to the same
signatures. Consequently (`loadsOK_agree`) two plain states that each hold, at every loaded path, the blob of the signature the
path resolved to agree on all the paths the call loads: the hypothesis of `sig_sound`.
-/
namespace Dds
open List

/-- the statement of `sig_shape` for analyses of nesting depth at most `fuel1` in the first world -/
def SH (U : Universe) (m : Nat) (fuel1 : Nat) : Prop :=
  ∀ (fuel2 : Nat) (W1 W2 : World) (refs1 refs2 : Refs) (stack1 stack2 : List String) (fn1 fn2 : Fn)
    (ctx1 ctx2 : ArgCtx) (fis1 fis2 : FIS) (r1 r2 : Refs),
    U.world W1 → U.world W2 → U.fns fn1 → U.fns fn2 →
    analyse m W1 fuel1 refs1 stack1 fn1 ctx1 = .ok (fis1, r1) →
    analyse m W2 fuel2 refs2 stack2 fn2 ctx2 = .ok (fis2, r2) →
    fis1.retSig = fis2.retSig → SameShape fis1 fis2

theorem LockStep.shape (U : Universe) {m : Nat} {fuel1 fuel2 : Nat} (hSH : SH U m fuel1) {W1 W2 : World}
    (hW1 : U.world W1) (hW2 : U.world W2) {its : List Item} {s1 s2 s1' s2' : VisitSt}
    (L : LockStep m W1 W2 (analyse m W1 fuel1) (analyse m W2 fuel2) s1 s2 its s1' s2') :
    SameShapeL s1.inters s2.inters → SameShapeL s1'.inters s2'.inters := by
  induction L with
  | nil => exact id
  | load _ _ _ ih => exact ih
  | seen _ _ _ _ ih => exact ih
  | call _ hc1 hc2 hsig _ ih =>
    exact fun h => ih (SameShapeL.append _ _ _ _ h ⟨(hSH fuel2 W1 W2 _ _ _ _ _ _ _ _ _ _ _ _ hW1 hW2
      (U.find hW1 hc1.find) (U.find hW2 hc2.find) hc1.sub hc2.sub hsig).kept _, trivial⟩)

theorem sig_shape (U : Universe) (m : Nat) : ∀ fuel1, SH U m fuel1 := by
  intro fuel1
  induction fuel1 with
  | zero =>
    intro fuel2 W1 W2 refs1 refs2 stack1 stack2 fn1 fn2 ctx1 ctx2 fis1 fis2 r1 r2 _ _ _ _ h1
    exact absurd h1 analyse_zero
  | succ k1 ih =>
    intro fuel2 W1 W2 refs1 refs2 stack1 stack2 fn1 fn2 ctx1 ctx2 fis1 fis2 r1 r2 hW1 hW2 hU1 hU2 h1 h2 hs
    obtain ⟨ev1, io1, st1, b1, d1, ret1, a1⟩ := analyse_inv h1
    obtain ⟨k2, ev2, io2, st2, b2, d2, ret2, rfl, a2⟩ := analyse_ok h2
    obtain ⟨hcode, _, _, hdeps, L⟩ := sig_code U a1 a2 hU1 hU2 hs
    rw [a1.retSig, a2.retSig] at hs
    rw [a1.hfis, a2.hfis]
    exact ⟨hs, congrArg Code.storePath hcode, hdeps, L.shape U ih hW1 hW2 trivial⟩

end Dds
