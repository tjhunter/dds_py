import DdsProofs.Closure
import DdsProofs.Memo
/-!
# Histories of evaluations: the store, and what plain execution has kept

The state of a history (`HState`) is the store together with the value plain execution has kept at every path. `HInv`: the
store is sound, closed under kept sub-calls (a real store) or without any committed path (a noop store), and every
committed path resolves to a blob that is the value plain execution has kept there (`PathsKept`). One evaluation of any
version of the code keeps it (`hinv_step`), provided it does not itself produce the paths it loads (`ExternalLoads`). So
after any history an evaluation returns what plain execution returns from the values kept so far (`history_value`): what
`dds.load` gives inside it is the value most recently kept at the path by a completed evaluation. `runHist` runs a history on
an `HState`; the store it leaves is `runHistory`, the history of the store alone (`runHist_store`).
-/
namespace Dds
open List

/-! ## The path table after a commit -/

theorem foldl_aset_frame (ps : List (String × Sg)) (acc : List (String × Sg)) (p : String)
    (h : ∀ pk ∈ ps, pk.1 ≠ p) :
    aget (ps.foldl (fun acc pk => aset acc pk.1 pk.2) acc) p = aget acc p := by
  induction ps generalizing acc with
  | nil => rfl
  | cons a ps ih =>
    simp only [foldl_cons]
    rw [ih _ (fun pk hpk => h pk (mem_cons_of_mem _ hpk))]
    exact aget_aset_ne _ _ _ _ (fun e => h a mem_cons_self e.symm)

theorem foldl_aset_sets (ps : List (String × Sg)) (acc : List (String × Sg)) (p : String) (k : Sg)
    (hm : (p, k) ∈ ps) (hnd : (ps.map Prod.fst).Nodup) :
    aget (ps.foldl (fun acc pk => aset acc pk.1 pk.2) acc) p = some k := by
  induction ps generalizing acc with
  | nil => cases hm
  | cons a ps ih =>
    simp only [map_cons, nodup_cons, mem_map, not_exists, not_and] at hnd
    simp only [foldl_cons]
    rcases mem_cons.mp hm with h | h
    · subst h
      rw [foldl_aset_frame ps _ p (fun pk hpk e => hnd.1 pk hpk e)]
      exact aget_aset_eq _ _ _
    · exact ih _ h hnd.2

theorem commit_sets (S : PStore) (hn : S.noop = false) (ps : List (String × Sg)) (p : String) (k : Sg)
    (hm : (p, k) ∈ ps) (hnd : (ps.map Prod.fst).Nodup) : aget (S.sync ps).paths p = some k := by
  rw [sync_paths, hn]
  exact foldl_aset_sets ps S.paths p k hm hnd

theorem commit_frame (S : PStore) (ps : List (String × Sg)) (p : String) (h : ∀ pk ∈ ps, pk.1 ≠ p) :
    aget (S.sync ps).paths p = aget S.paths p := by
  rw [sync_paths]
  split
  · rfl
  · exact foldl_aset_frame ps S.paths p h

/-! ## The invariant of a history -/

/-- the paths loaded by the evaluation are not produced by it: they resolve through the store -/
def ExternalLoads (m : Nat) (W : World) (S : PStore) (rq : Request) : Prop :=
  ∀ fn env fis paths, analysisPhase m W S rq = .ok (fn, env, fis, paths) → ∀ p ∈ fis.allLoads, External paths p

/-- a computable check of `ExternalLoads` on the result of the analysis -/
def extLoadsB (r : Except DdsErr (Fn × Env × FIS × List (String × Sg))) : Bool :=
  match r with
  | .ok (_, _, fis, paths) => fis.allLoads.all (fun p => (aget paths p).isNone)
  | .error _ => true

theorem externalLoads_of_check {m : Nat} {W : World} {S : PStore} {rq : Request}
    (h : extLoadsB (analysisPhase m W S rq) = true) : ExternalLoads m W S rq := by
  intro fn env fis paths ha p hp
  rw [ha] at h
  exact Option.isNone_iff_eq_none.mp (all_eq_true.mp h p hp)

structure HInv (U : Universe) (m x : Nat) (h : HState) : Prop where
  sound : Sound U m x h.store
  kept : PathsKept h.store h.kept
  kind : (h.store.noop = false ∧ Closed U m h.store) ∨ (h.store.noop = true ∧ h.store.paths = [])

theorem hinv_empty (U : Universe) (m x : Nat) (noop : Bool) : HInv U m x { store := { noop := noop }, kept := [] } where
  sound := sound_empty U m x noop
  kept := nofun
  kind := by
    cases noop
    · exact Or.inl ⟨rfl, closed_empty U m false⟩
    · exact Or.inr ⟨rfl, rfl⟩

theorem kept_after (U : Universe) (m x : Nat) (W : World) (S : PStore) (K : LoadEnv) (rq : Request)
    (E : EvalCtx U x W) (hrq : U.request rq) (hS : Sound U m x S) (hPK : PathsKept S K)
    {fn : Fn} {env : Env} {fis' : FIS} {paths : List (String × Sg)}
    (ha : analysisPhase m W S rq = .ok (fn, env, fis', paths)) (hext : ∀ p ∈ fis'.allLoads, External paths p)
    {v : RVal} {pst : PSt} (hp : plainFn W W.fuel { kept := K } fn env = (.ok v, pst)) :
    (plainRun W K rq).1 = .ok v ∧
    (∀ p, External paths p → aget (plainRun W K rq).2.kept p = aget K p) ∧
    (∀ p k, aget paths p = some k → ∃ w, aget (plainRun W K rq).2.kept p = some w ∧ Right U m x S.blobs k w) := by
  obtain ⟨named, refs0, fis, r, P⟩ := analysisPhase_inv ha
  obtain ⟨_, _, _, m4, m5⟩ := memo_correct U m x W S K rq E hrq hS hPK ha hext
  rw [hp] at m4 m5
  obtain ⟨mr, ms⟩ := m5 v rfl
  have hfr := pframe m W paths W.fuel refs0 [] fn ⟨named, none⟩ env fis r { kept := K } P.hana P.pathsOKL
  rw [hp] at hfr
  -- the value is kept at the path of the root, where it is the right value of the root's signature
  have hpk := pk_node (nd := fis') (v := v) m4 ms fun w hw => ⟨pathMap_root ha hw, mr⟩
  have hent : fis'.storePath = (match entryPathOf rq fn with | some p => some p | none => fn.storePath) := by
    rw [P.hfis, FIS.kept_storePath, analyse_storePath P.hana]
    cases entryPathOf rq fn <;> rfl
  have hrun : plainRun W K rq = (.ok v, match fis'.storePath with
      | some p => { pst with kept := aset pst.kept p v } | none => pst) := by
    simp only [plainRun, P.hfind, P.hbind, hp, hent]
    rfl
  rw [hrun]
  refine ⟨rfl, fun p hpe => ?_, fun p k hpk' => ?_⟩
  · cases hsp : fis'.storePath with
    | none => exact hfr p hpe
    | some q => exact (aget_aset_external (pathMap_root ha hsp) hpe _ _).trans (hfr p hpe)
  · have hmem : p ∈ fis'.keptPaths := keptSigs_keptPaths fis' (p, k) ((pathMap_iff P.hpaths p k).mp hpk')
    cases hsp : fis'.storePath <;> rw [hsp] at hpk <;> exact hpk.2 p hmem k hpk'

theorem histStep_store (m : Nat) (h : HState) (W : World) (rq : Request) :
    (histStep m h W rq).store = (evalStep m W h.store rq).store := rfl

theorem histStep_kept (m : Nat) (h : HState) (W : World) (rq : Request) :
    (histStep m h W rq).kept = match (plainRun W h.kept rq).1 with
      | .ok _ => if completed (evalStep m W h.store rq) rq then (plainRun W h.kept rq).2.kept else h.kept
      | .error _ => h.kept := rfl

theorem committed_value (U : Universe) (m x : Nat) (W : World) (S : PStore) (K : LoadEnv) (rq : Request)
    (E : EvalCtx U x W) (hrq : U.request rq) (hS : Sound U m x S) (hPK : PathsKept S K) (hC : Closed U m S) (hn : S.noop = false)
    {fn : Fn} {env : Env} {fis : FIS} {paths : List (String × Sg)}
    (ha : analysisPhase m W S rq = .ok (fn, env, fis, paths)) (hext : ∀ p ∈ fis.allLoads, External paths p)
    (hs : Stage.eval ∈ rq.stages)
    (hpc : Stage.pathCommit ∈ rq.stages) {v : RVal} (hv : (evalStep m W S rq).value = .ok (some v))
    (p : String) (k : Sg) (hp : aget paths p = some k) :
    aget (evalStep m W S rq).store.paths p = some k ∧
    ∃ w, sgGet (evalStep m W S rq).store.blobs k = some w ∧ Right U m x (evalStep m W S rq).store.blobs k w := by
  obtain ⟨_, _, _, _, P⟩ := analysisPhase_inv ha
  refine ⟨?_, ?_⟩
  · rw [evalStep_paths ha, if_pos (completed_iff.mpr ⟨⟨v, hv⟩, hpc⟩)]
    exact commit_sets S hn paths p k (aget_mem hp) (pathMap_nodup P.hpaths)
  · obtain ⟨w, hw⟩ := Option.isSome_iff_exists.mp (requested_paths_stored U m W S rq E.hW hC hn ha hs hv p k hp)
    exact ⟨w, hw, (memo_correct U m x W S K rq E hrq hS hPK ha hext).1 k w hw⟩

theorem hinv_step (U : Universe) (m x : Nat) (h : HState) (W : World) (rq : Request)
    (E : EvalCtx U x W) (hrq : U.request rq) (hext : ExternalLoads m W h.store rq) (hI : HInv U m x h) :
    HInv U m x (histStep m h W rq) := by
  cases ha : analysisPhase m W h.store rq with
  | error e =>
    have e1 : histStep m h W rq = h := by
      rw [histStep, evalStep_rejected ha]
      split <;> rfl
    rw [e1]
    exact hI
  | ok res =>
    obtain ⟨fn, env, fis', paths⟩ := res
    have hx := hext fn env fis' paths ha
    obtain ⟨m1, m2, m3, _, _⟩ := memo_correct U m x W h.store h.kept rq E hrq hI.sound hI.kept ha hx
    have hnoop : h.store.noop = true → (evalStep m W h.store rq).store.paths = h.store.paths := fun hn => by
      rw [evalStep_paths ha, sync_paths, if_pos hn, ite_self]
    refine { sound := m1, kept := fun p k hpk => ?_, kind := ?_ }
    · rw [histStep_store] at hpk ⊢
      rcases hI.kind with ⟨hn, hC⟩ | ⟨hn, hpe⟩
      · rw [histStep_kept]
        cases hc : completed (evalStep m W h.store rq) rq with
        | false =>
          -- nothing is committed, nothing is taken over
          rw [evalStep_paths ha, hc] at hpk
          obtain ⟨w, w1, w2⟩ := hI.kept p k hpk
          exact ⟨w, m2 k w w1, by split <;> exact w2⟩
        | true =>
          -- the evaluation completed: plain execution returned too, and its kept values are taken over
          obtain ⟨⟨v, hv⟩, hpc⟩ := completed_iff.mp hc
          have hs : Stage.eval ∈ rq.stages := Decidable.by_contra fun hs => by
            rw [evalStep_restricted ha hs] at hv
            cases hv
          have hpl := m3 hs
          rw [hv] at hpl
          cases hp : plainFn W W.fuel { kept := h.kept } fn env with
          | mk pv pst =>
            rw [hp] at hpl
            cases pv with
            | error e => cases hpl
            | ok v' =>
              obtain ⟨a1, a2, a3⟩ := kept_after U m x W h.store h.kept rq E hrq hI.sound hI.kept ha hx hp
              rw [a1]
              show ∃ w, _ ∧ aget (plainRun W h.kept rq).2.kept p = some w
              cases hpp : aget paths p with
              | some k' =>
                -- a path of the evaluation: its blob and what plain execution kept are both the right value
                obtain ⟨c1, w', c2, c3⟩ :=
                  committed_value U m x W h.store h.kept rq E hrq hI.sound hI.kept hC hn ha hx hs hpc hv p k' hpp
                cases hpk.symm.trans c1
                obtain ⟨w, w1, w2⟩ := a3 p k hpp
                cases c3.unique (w2.mono m2)
                exact ⟨w', c2, w1⟩
              | none =>
                rw [evalStep_paths ha, hc, if_pos rfl, commit_frame _ _ _ (not_mem_of_aget_none hpp)] at hpk
                obtain ⟨w, w1, w2⟩ := hI.kept p k hpk
                exact ⟨w, m2 k w w1, (a2 p hpp).trans w2⟩
      · -- a noop store commits nothing
        rw [hnoop hn, hpe] at hpk
        cases hpk
    · rw [histStep_store]
      rcases hI.kind with ⟨hn, hC⟩ | ⟨hn, hp⟩
      · exact .inl ⟨(evalStep_noop ..).trans hn, (closed_evalStep U m W h.store rq E.hW hC hn).1⟩
      · exact .inr ⟨(evalStep_noop ..).trans hn, (hnoop hn).trans hp⟩

/-! ## Histories -/

def HStep.ok (U : Universe) (x : Nat) (s : HStep) : Prop :=
  EvalCtx U x s.world ∧ U.request s.rq

def histOK (U : Universe) (m x : Nat) : HState → List HStep → Prop
  | _, [] => True
  | h, s :: ss => s.ok U x ∧ ExternalLoads m s.world h.store s.rq ∧ histOK U m x (histStep m h s.world s.rq) ss

theorem hinv_history (U : Universe) (m x : Nat) : ∀ (hist : List HStep) (h : HState), HInv U m x h → histOK U m x h hist →
    HInv U m x (runHist m h hist) := by
  intro hist
  induction hist with
  | nil => exact fun _ hI _ => hI
  | cons s ss ih =>
    intro h hI hok
    obtain ⟨⟨h1, h2⟩, h3, h4⟩ := hok
    exact ih _ (hinv_step U m x h s.world s.rq h1 h2 h3 hI) h4

/-- After any history of evaluations from an empty store (real or noop) — of older versions of the code, with other
variable values and arguments, restricted to any stages, failed or not — an evaluation of the current version returns
what plain execution of the current version returns from the values kept so far. -/
theorem history_value (U : Universe) (m x : Nat) (noop : Bool) (hist : List HStep)
    (hok : histOK U m x { store := { noop := noop }, kept := [] } hist)
    (W : World) (rq : Request) (E : EvalCtx U x W) (hrq : U.request rq)
    {fn : Fn} {env : Env} {fis : FIS} {paths : List (String × Sg)}
    (ha : analysisPhase m W (runHist m { store := { noop := noop }, kept := [] } hist).store rq = .ok (fn, env, fis, paths))
    (hext : ∀ p ∈ fis.allLoads, External paths p) (hs : Stage.eval ∈ rq.stages) :
    (evalStep m W (runHist m { store := { noop := noop }, kept := [] } hist).store rq).value =
      ((plainFn W W.fuel { kept := (runHist m { store := { noop := noop }, kept := [] } hist).kept } fn env).1).map some := by
  have hI := hinv_history U m x hist _ (hinv_empty U m x noop) hok
  exact (memo_correct U m x W _ _ rq E hrq hI.sound hI.kept ha hext).2.2.1 hs

/-! ## Load-free pipelines: the hypothesis on loads holds trivially -/

/-- no function of this version calls `dds.load` -/
def World.loadFree (W : World) : Prop := ∀ f ∈ W.funs, ∀ it ∈ f.items, ∀ p l, it ≠ Item.load p l

def LoadFreeFn (m : Nat) (W : World) (fuel : Nat) : Prop :=
  ∀ (refs : Refs) (stack : List String) (fn : Fn) (ctx : ArgCtx) (fis : FIS) (r : Refs), fn ∈ W.funs →
    analyse m W fuel refs stack fn ctx = .ok (fis, r) → fis.allLoads = []

theorem loadfree_items {m : Nat} {W : World} {fuel : Nat} (hIH : LoadFreeFn m W fuel) {fn : Fn} {isig : Sg}
    {stack : List String} {its : List Item} (hnl : ∀ it ∈ its, ∀ p l, it ≠ Item.load p l) {s sfin : VisitSt}
    (h : visitItems m W (analyse m W fuel) fn isig stack s its = .ok sfin)
    (hs : s.loads = [] ∧ FIS.allLoadsL s.inters = []) : sfin.loads = [] ∧ FIS.allLoadsL sfin.inters = [] := by
  induction its generalizing s with
  | nil =>
    cases h
    exact hs
  | cons it its ih =>
    obtain ⟨t, hv, hr⟩ := visitItems_cons_inv h
    refine ih (fun x hx => hnl x (mem_cons_of_mem _ hx)) hr ?_
    cases visitItem_inv hv with
    | load path line => exact absurd rfl (hnl _ mem_cons_self path line)
    | seen => exact hs
    | call _ _ hstep =>
      refine ⟨hs.1, ?_⟩
      simp only [VisitSt.afterCall, allLoadsL_append, hs.2, FIS.allLoadsL, kept_allLoads, nil_append, append_nil]
      exact hIH _ _ _ _ _ _ (List.mem_of_find?_eq_some hstep.find) hstep.sub

theorem loadfree_fn (m : Nat) (W : World) (hW : W.loadFree) : ∀ fuel, LoadFreeFn m W fuel := by
  intro fuel
  induction fuel with
  | zero => exact fun _ _ _ _ _ _ _ ha => absurd ha analyse_zero
  | succ k ih =>
    intro refs stack fn ctx fis r hfn ha
    obtain ⟨ev, io, sv, b, d, ret, a⟩ := analyse_inv ha
    obtain ⟨l1, l2⟩ := loadfree_items ih (hW fn hfn) a.hvisit ⟨rfl, rfl⟩
    rw [a.allLoads, lookupRefs_fst a.hdeps, l1, l2]
    rfl

theorem externalLoads_of_loadFree {m : Nat} {W : World} (hW : W.loadFree) (S : PStore) (rq : Request) :
    ExternalLoads m W S rq := by
  intro fn env fis paths ha p hp
  obtain ⟨named, refs0, fis0, r, P⟩ := analysisPhase_inv ha
  rw [P.allLoads, loadfree_fn m W hW W.fuel refs0 [] fn ⟨named, none⟩ fis0 r (List.mem_of_find?_eq_some P.hfind) P.hana] at hp
  cases hp

theorem histOK_of_loadFree (U : Universe) (m x : Nat) : ∀ (hist : List HStep) (h : HState),
    (∀ s ∈ hist, s.ok U x ∧ s.world.loadFree) → histOK U m x h hist := by
  intro hist
  induction hist with
  | nil => exact fun _ _ => trivial
  | cons s ss ih =>
    exact fun h hok => ⟨(hok s mem_cons_self).1, externalLoads_of_loadFree (hok s mem_cons_self).2 _ _,
      ih _ (fun t ht => hok t (mem_cons_of_mem _ ht))⟩

end Dds
