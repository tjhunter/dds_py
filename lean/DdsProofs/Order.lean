import DdsModel.Order
/-! The calls of an expression are analysed in the order in which Python makes them when every called function is a name or
an attribute chain (`dds_order_eq`); whatever the called functions are, the same calls are analysed (`dds_order_perm`). -/
namespace Dds.Order

theorem dds_order_eq (e : CE) (h : funcSimple e = true) : ddsOrder e = pyOrder e := by
  induction e with
  | atom => rfl
  | call i f as _ ihas =>
    cases f with
    | atom =>
      rw [ddsOrder, pyOrder, ihas h]
      exact List.append_nil _
    | call _ _ _ => cases h
    | pair _ _ => cases h
  | pair a b iha ihb =>
    obtain ⟨ha, hb⟩ := Bool.and_eq_true_iff.mp h
    rw [ddsOrder, pyOrder, iha ha, ihb hb]

theorem dds_order_perm : ∀ (e : CE), (ddsOrder e).Perm (pyOrder e) := by
  intro e
  induction e with
  | atom => exact .refl _
  | call i f as ihf ihas =>
    -- the called function moves from the end to the front
    exact List.perm_append_comm.trans ((ihf.append (ihas.append_right _)).trans (.of_eq (List.append_assoc ..).symm))
  | pair a b iha ihb => exact iha.append ihb

/-- `g(h())`, the argument of `keep('/p', g, h())`: before the fix `g` was analysed before `h`, so `h` was not in its context -/
def nested : CE := .call 0 .atom (.call 1 .atom .atom)

theorem old_order_differs : pyOrder nested = [1, 0] ∧ oldOrder nested = [0, 1] ∧ ddsOrder nested = [1, 0] := ⟨rfl, rfl, rfl⟩

end Dds.Order
