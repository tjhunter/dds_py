import DdsModel.Eval
/-!
Functions and predicates over the tree of `FunctionInteractions` (`FIS`). `FIS` is a nested inductive, so each comes with a
twin over lists of trees. Each twin is characterised once by the members of the list (`*L_iff`, `*L_eq`) and each predicate
by its node and its children (`*_iff`); induction over trees is `FIS.induction`.
-/
namespace Dds
open List

theorem FIS.induction {P : FIS → Prop}
    (h : ∀ n s p subs l, (∀ f ∈ subs, P f) → P (.mk n s p subs l)) : ∀ f, P f :=
  @FIS.rec P (fun fs => ∀ f ∈ fs, P f) (fun n s p subs l ih => h n s p subs l ih)
    (fun _ hf => nomatch hf) (fun _ _ h1 h2 _ hf => (mem_cons.mp hf).elim (· ▸ h1) (h2 _))

/-- the twin over lists of a predicate, written by recursion next to it: every member has the property -/
theorem forallL_iff {α : Type} {P : α → Prop} {PL : List α → Prop} (hnil : PL [] ↔ True)
    (hcons : ∀ f fs, PL (f :: fs) ↔ P f ∧ PL fs) {fs : List α} : PL fs ↔ ∀ f ∈ fs, P f := by
  induction fs with
  | nil => exact hnil.trans ⟨fun _ => nofun, fun _ => trivial⟩
  | cons g gs ih => rw [hcons, ih, forall_mem_cons]

/-- the twin over lists of a list-valued function is `flatMap` -/
theorem flatL_eq {α β : Type} {F : α → List β} {FL : List α → List β} (hnil : FL [] = [])
    (hcons : ∀ f fs, FL (f :: fs) = F f ++ FL fs) (fs : List α) : FL fs = fs.flatMap F := by
  induction fs with
  | nil => exact hnil
  | cons g gs ih => rw [hcons, ih, flatMap_cons]

/-- the node recorded for a call kept at `kp` (an explicit `keep`, the entry of an evaluation), or not kept there -/
def FIS.kept (f : FIS) : Option String → FIS
  | some p => f.withPath p
  | none => f

@[simp] theorem FIS.kept_retSig (f : FIS) (kp : Option String) : (f.kept kp).retSig = f.retSig := by cases kp <;> rfl
@[simp] theorem FIS.kept_subs (f : FIS) (kp : Option String) : (f.kept kp).subs = f.subs := by cases kp <;> rfl
@[simp] theorem FIS.kept_loads (f : FIS) (kp : Option String) : (f.kept kp).loads = f.loads := by cases kp <;> rfl
theorem FIS.kept_storePath (f : FIS) (kp : Option String) : (f.kept kp).storePath = kp.or f.storePath := by
  cases kp <;> rfl

theorem withPath_retSig (f : FIS) (p : String) : (f.withPath p).retSig = f.retSig := rfl
theorem withPath_subs (f : FIS) (p : String) : (f.withPath p).subs = f.subs := rfl

/-! ## The paths a tree loads, the paths it keeps -/

mutual
def FIS.allLoads : FIS → List String
  | .mk _ _ _ subs loads => loads.map Prod.fst ++ FIS.allLoadsL subs
def FIS.allLoadsL : List FIS → List String
  | [] => []
  | f :: fs => FIS.allLoads f ++ FIS.allLoadsL fs
end

theorem allLoads_eq (f : FIS) : f.allLoads = f.loads.map Prod.fst ++ FIS.allLoadsL f.subs := by cases f; rfl

theorem allLoadsL_eq (fs : List FIS) : FIS.allLoadsL fs = fs.flatMap FIS.allLoads := flatL_eq rfl (fun _ _ => rfl) fs

theorem mem_allLoadsL {p : String} {fs : List FIS} : p ∈ FIS.allLoadsL fs ↔ ∃ f ∈ fs, p ∈ f.allLoads := by
  rw [allLoadsL_eq, mem_flatMap]

theorem allLoadsL_append (a b : List FIS) : FIS.allLoadsL (a ++ b) = FIS.allLoadsL a ++ FIS.allLoadsL b := by
  rw [allLoadsL_eq, allLoadsL_eq, allLoadsL_eq, flatMap_append]

theorem allLoadsL_mem {p : String} {fs : List FIS} {f : FIS} (hf : f ∈ fs) (hp : p ∈ f.allLoads) :
    p ∈ FIS.allLoadsL fs := mem_allLoadsL.mpr ⟨f, hf, hp⟩

theorem kept_allLoads (f : FIS) (kp : Option String) : (f.kept kp).allLoads = f.allLoads := by
  rw [allLoads_eq, allLoads_eq, FIS.kept_loads, FIS.kept_subs]

theorem withPath_allLoads' (f : FIS) (p : String) : (f.withPath p).allLoads = f.allLoads := kept_allLoads f (some p)

mutual
def FIS.keptPaths : FIS → List String
  | .mk _ _ p subs _ => (match p with | some q => [q] | none => []) ++ FIS.keptPathsL subs
def FIS.keptPathsL : List FIS → List String
  | [] => []
  | f :: fs => FIS.keptPaths f ++ FIS.keptPathsL fs
end

theorem keptPaths_iff (f : FIS) (q : String) :
    q ∈ f.keptPaths ↔ f.storePath = some q ∨ q ∈ FIS.keptPathsL f.subs := by
  obtain ⟨n, s, p, subs, l⟩ := f
  cases p with
  | none => exact ⟨.inr, fun h => h.elim nofun id⟩
  | some q' =>
    show q ∈ q' :: FIS.keptPathsL subs ↔ _
    rw [mem_cons]
    exact or_congr ⟨fun e => e ▸ rfl, fun e => (Option.some.inj e).symm⟩ Iff.rfl

theorem keptPathsL_eq (fs : List FIS) : FIS.keptPathsL fs = fs.flatMap FIS.keptPaths := flatL_eq rfl (fun _ _ => rfl) fs

theorem mem_keptPathsL {q : String} {fs : List FIS} : q ∈ FIS.keptPathsL fs ↔ ∃ f ∈ fs, q ∈ f.keptPaths := by
  rw [keptPathsL_eq, mem_flatMap]

theorem keptPathsL_mem {q : String} : ∀ {fs : List FIS} {f : FIS}, f ∈ fs → q ∈ f.keptPaths → q ∈ FIS.keptPathsL fs :=
  fun hf hq => mem_keptPathsL.mpr ⟨_, hf, hq⟩

theorem forall_keptPathsL_snoc {P : String → Prop} {a : List FIS} {nd : FIS} (ha : ∀ q ∈ FIS.keptPathsL a, P q)
    (hnd : ∀ q ∈ nd.keptPaths, P q) : ∀ q ∈ FIS.keptPathsL (a ++ [nd]), P q := by
  rw [keptPathsL_eq, flatMap_append, flatMap_singleton, ← keptPathsL_eq]
  exact forall_mem_append.mpr ⟨ha, hnd⟩

/-! ## The path map fixed by the analysis covers every kept call of the tree -/

mutual
def FIS.pathsOK (paths : List (String × Sg)) : FIS → Prop
  | .mk _ s p subs _ => (match p with | some q => aget paths q = some s | none => True) ∧ FIS.pathsOKL paths subs
def FIS.pathsOKL (paths : List (String × Sg)) : List FIS → Prop
  | [] => True
  | f :: fs => FIS.pathsOK paths f ∧ FIS.pathsOKL paths fs
end

theorem pathsOKL_iff {paths : List (String × Sg)} {fs : List FIS} :
    FIS.pathsOKL paths fs ↔ ∀ f ∈ fs, FIS.pathsOK paths f :=
  forallL_iff Iff.rfl fun _ _ => Iff.rfl

theorem pathsOKL_append {paths : List (String × Sg)} {a b : List FIS} :
    FIS.pathsOKL paths (a ++ b) ↔ FIS.pathsOKL paths a ∧ FIS.pathsOKL paths b := by
  simp only [pathsOKL_iff, forall_mem_append]

theorem pathsOK_iff (paths : List (String × Sg)) (f : FIS) :
    FIS.pathsOK paths f ↔ (∀ q, f.storePath = some q → aget paths q = some f.retSig) ∧ FIS.pathsOKL paths f.subs := by
  obtain ⟨n, s, p, subs, l⟩ := f
  cases p with
  | none => exact and_congr ⟨fun _ => nofun, fun _ => trivial⟩ Iff.rfl
  | some q => exact and_congr ⟨fun h _ e => Option.some.inj e ▸ h, fun h => h q rfl⟩ Iff.rfl

/-! ## Plain states that hold the blobs of the loaded paths -/

abbrev Blobs := List (Sg × RVal)

mutual
def FIS.loadsOK (Ω : Blobs) (kept : LoadEnv) : FIS → Prop
  | .mk _ _ _ subs loads =>
    (∀ ps ∈ loads, ∃ v, sgGet Ω ps.2 = some v ∧ aget kept ps.1 = some v) ∧ FIS.loadsOKL Ω kept subs
def FIS.loadsOKL (Ω : Blobs) (kept : LoadEnv) : List FIS → Prop
  | [] => True
  | f :: fs => FIS.loadsOK Ω kept f ∧ FIS.loadsOKL Ω kept fs
end

theorem loadsOKL_iff {Ω : Blobs} {k : LoadEnv} {fs : List FIS} :
    FIS.loadsOKL Ω k fs ↔ ∀ f ∈ fs, FIS.loadsOK Ω k f :=
  forallL_iff Iff.rfl fun _ _ => Iff.rfl

theorem loadsOKL_append {Ω : Blobs} {k : LoadEnv} {a b : List FIS} :
    FIS.loadsOKL Ω k (a ++ b) ↔ FIS.loadsOKL Ω k a ∧ FIS.loadsOKL Ω k b := by
  simp only [loadsOKL_iff, forall_mem_append]

theorem loadsOK_iff (Ω : Blobs) (k : LoadEnv) (f : FIS) :
    FIS.loadsOK Ω k f ↔ (∀ ps ∈ f.loads, ∃ v, sgGet Ω ps.2 = some v ∧ aget k ps.1 = some v) ∧ FIS.loadsOKL Ω k f.subs := by
  cases f; rfl

theorem loadsOK_kept (Ω : Blobs) (k : LoadEnv) (f : FIS) (kp : Option String) :
    FIS.loadsOK Ω k (f.kept kp) ↔ FIS.loadsOK Ω k f := by
  rw [loadsOK_iff, loadsOK_iff, FIS.kept_loads, FIS.kept_subs]

theorem loadsOK_withPath (Ω : Blobs) (k : LoadEnv) (f : FIS) (p : String) :
    FIS.loadsOK Ω k (f.withPath p) ↔ FIS.loadsOK Ω k f := loadsOK_kept Ω k f (some p)

theorem loadsOK_mono {Ω Ω' : Blobs} {k : LoadEnv} (h : ∀ s v, sgGet Ω s = some v → sgGet Ω' s = some v) :
    ∀ (f : FIS), FIS.loadsOK Ω k f → FIS.loadsOK Ω' k f :=
  FIS.induction fun _ _ _ _ _ ih hf =>
    ⟨fun ps hps => (hf.1 ps hps).imp fun _ hv => ⟨h _ _ hv.1, hv.2⟩, loadsOKL_iff.mpr fun f hm => ih f hm (loadsOKL_iff.mp hf.2 f hm)⟩

theorem loadsOKL_mono {Ω Ω' : Blobs} {k : LoadEnv} (h : ∀ s v, sgGet Ω s = some v → sgGet Ω' s = some v)
    (fs : List FIS) (hf : FIS.loadsOKL Ω k fs) : FIS.loadsOKL Ω' k fs :=
  loadsOKL_iff.mpr fun f hm => loadsOK_mono h f (loadsOKL_iff.mp hf f hm)

theorem loadsOK_transfer {Ω : Blobs} {k1 k2 : LoadEnv} : ∀ (f : FIS), (∀ p ∈ f.allLoads, aget k2 p = aget k1 p) →
    FIS.loadsOK Ω k1 f → FIS.loadsOK Ω k2 f :=
  FIS.induction fun _ _ _ subs loads ih he hf => by
    simp only [FIS.allLoads, mem_append] at he
    refine ⟨fun ps hps => ?_, loadsOKL_iff.mpr fun f hm => ?_⟩
    · rw [he ps.1 (.inl (mem_map_of_mem hps))]; exact hf.1 ps hps
    · exact ih f hm (fun p hp => he p (.inr (allLoadsL_mem hm hp))) (loadsOKL_iff.mp hf.2 f hm)

theorem loadsOKL_transfer {Ω : Blobs} {k1 k2 : LoadEnv} : ∀ (fs : List FIS), (∀ p ∈ FIS.allLoadsL fs, aget k2 p = aget k1 p) →
    FIS.loadsOKL Ω k1 fs → FIS.loadsOKL Ω k2 fs :=
  fun _ he hf => loadsOKL_iff.mpr fun f hm =>
    loadsOK_transfer f (fun p hp => he p (allLoadsL_mem hm hp)) (loadsOKL_iff.mp hf f hm)

/-! ## Every kept call has its blob -/

mutual
def Covered (bl : List (Sg × RVal)) : FIS → Prop
  | .mk _ s p subs _ => (p ≠ none → (sgGet bl s).isSome = true) ∧ CoveredL bl subs
def CoveredL (bl : List (Sg × RVal)) : List FIS → Prop
  | [] => True
  | f :: fs => Covered bl f ∧ CoveredL bl fs
end

theorem coveredL_iff {bl : List (Sg × RVal)} {fs : List FIS} : CoveredL bl fs ↔ ∀ f ∈ fs, Covered bl f :=
  forallL_iff Iff.rfl fun _ _ => Iff.rfl

theorem coveredL_append {bl : List (Sg × RVal)} {a b : List FIS} : CoveredL bl (a ++ b) ↔ CoveredL bl a ∧ CoveredL bl b := by
  simp only [coveredL_iff, forall_mem_append]

theorem covered_iff (bl : List (Sg × RVal)) (f : FIS) :
    Covered bl f ↔ (f.storePath ≠ none → (sgGet bl f.retSig).isSome = true) ∧ CoveredL bl f.subs := by
  cases f; rfl

theorem Covered.mono {bl bl' : List (Sg × RVal)} (h : ∀ k, (sgGet bl k).isSome = true → (sgGet bl' k).isSome = true) :
    ∀ (f : FIS), Covered bl f → Covered bl' f :=
  FIS.induction fun _ s _ _ _ ih hc =>
    ⟨fun hp => h s (hc.1 hp), coveredL_iff.mpr fun f hm => ih f hm (coveredL_iff.mp hc.2 f hm)⟩

theorem CoveredL.mono {bl bl' : List (Sg × RVal)} (h : ∀ k, (sgGet bl k).isSome = true → (sgGet bl' k).isSome = true)
    (fs : List FIS) (hc : CoveredL bl fs) : CoveredL bl' fs :=
  coveredL_iff.mpr fun f hm => Covered.mono h f (coveredL_iff.mp hc f hm)

/-! ## Trees of the same shape -/

mutual
def SameShape : FIS → FIS → Prop
  | .mk _ s1 p1 subs1 l1, .mk _ s2 p2 subs2 l2 =>
    s1 = s2 ∧ p1 = p2 ∧ (∀ p s, (p, s) ∈ l1 ↔ (p, s) ∈ l2) ∧ SameShapeL subs1 subs2
def SameShapeL : List FIS → List FIS → Prop
  | [], [] => True
  | a :: as, b :: bs => SameShape a b ∧ SameShapeL as bs
  | [], _ :: _ => False
  | _ :: _, [] => False
end

theorem sameShape_iff (f g : FIS) : SameShape f g ↔ f.retSig = g.retSig ∧ f.storePath = g.storePath ∧
    (∀ p s, (p, s) ∈ f.loads ↔ (p, s) ∈ g.loads) ∧ SameShapeL f.subs g.subs := by
  cases f; cases g; rfl

theorem SameShape.kept {f g : FIS} (h : SameShape f g) (kp : Option String) : SameShape (f.kept kp) (g.kept kp) := by
  rw [sameShape_iff] at h ⊢
  simp only [FIS.kept_retSig, FIS.kept_storePath, FIS.kept_loads, FIS.kept_subs, h.2.1]
  exact ⟨h.1, trivial, h.2.2⟩

theorem SameShapeL.mem {fs gs : List FIS} (h : SameShapeL fs gs) :
    (∀ f ∈ fs, ∃ g ∈ gs, SameShape f g) ∧ ∀ g ∈ gs, ∃ f ∈ fs, SameShape f g := by
  induction fs generalizing gs with
  | nil =>
    cases gs with
    | nil => exact ⟨nofun, nofun⟩
    | cons b bs => exact h.elim
  | cons a as ih =>
    cases gs with
    | nil => exact h.elim
    | cons b bs =>
      obtain ⟨h1, h2⟩ := ih h.2
      refine ⟨forall_mem_cons.mpr ⟨⟨b, mem_cons_self, h.1⟩, fun f hf => ?_⟩,
        forall_mem_cons.mpr ⟨⟨a, mem_cons_self, h.1⟩, fun g hg => ?_⟩⟩
      · exact (h1 f hf).imp fun _ hg => ⟨mem_cons_of_mem _ hg.1, hg.2⟩
      · exact (h2 g hg).imp fun _ hf => ⟨mem_cons_of_mem _ hf.1, hf.2⟩

theorem SameShapeL.append (a b c d : List FIS) (h1 : SameShapeL a b) (h2 : SameShapeL c d) :
    SameShapeL (a ++ c) (b ++ d) := by
  induction a generalizing b with
  | nil =>
    cases b with
    | nil => exact h2
    | cons y b => exact h1.elim
  | cons x a ih =>
    cases b with
    | nil => exact h1.elim
    | cons y b => exact ⟨h1.1, ih b h1.2⟩

theorem Covered.shape {bl : List (Sg × RVal)} : ∀ (f g : FIS), SameShape f g → Covered bl f → Covered bl g :=
  FIS.induction fun _ _ _ _ _ ih g hs hc => by
    rw [sameShape_iff] at hs
    rw [covered_iff] at hc ⊢
    refine ⟨hs.1 ▸ hs.2.1 ▸ hc.1, coveredL_iff.mpr fun g' hg' => ?_⟩
    obtain ⟨f', hf', hs'⟩ := hs.2.2.2.mem.2 g' hg'
    exact ih f' hf' g' hs' (coveredL_iff.mp hc.2 f' hf')

theorem CoveredL.shape {bl : List (Sg × RVal)} (fs gs : List FIS) (hs : SameShapeL fs gs) (hc : CoveredL bl fs) :
    CoveredL bl gs :=
  coveredL_iff.mpr fun g hg =>
    let ⟨f, hf, hfg⟩ := hs.mem.2 g hg
    Covered.shape f g hfg (coveredL_iff.mp hc f hf)

theorem loadsOK_agree {Ω : Blobs} {k1 k2 : LoadEnv} : ∀ (f g : FIS), SameShape f g →
    FIS.loadsOK Ω k1 f → FIS.loadsOK Ω k2 g → ∀ p ∈ f.allLoads, aget k1 p = aget k2 p :=
  FIS.induction fun _ _ _ subs loads ih g hs h1 h2 p hp => by
    rw [sameShape_iff] at hs
    rw [loadsOK_iff] at h2
    rcases mem_append.mp hp with hp | hp
    · obtain ⟨⟨p', s⟩, hm, rfl⟩ := mem_map.mp hp
      obtain ⟨v, hv1, hv2⟩ := h1.1 _ hm
      obtain ⟨w, hw1, hw2⟩ := h2.1 _ ((hs.2.2.1 p' s).mp hm)
      rw [hv2, hw2, ← hv1, ← hw1]
    · obtain ⟨f', hf', hp'⟩ := mem_allLoadsL.mp hp
      obtain ⟨g', hg', hs'⟩ := hs.2.2.2.mem.1 f' hf'
      exact ih f' hf' g' hs' (loadsOKL_iff.mp h1.2 f' hf') (loadsOKL_iff.mp h2.2 g' hg') p hp'

theorem loadsOKL_agree {Ω : Blobs} {k1 k2 : LoadEnv} (fs gs : List FIS) (hs : SameShapeL fs gs)
    (h1 : FIS.loadsOKL Ω k1 fs) (h2 : FIS.loadsOKL Ω k2 gs) : ∀ p ∈ FIS.allLoadsL fs, aget k1 p = aget k2 p :=
  fun p hp =>
    let ⟨f, hf, hp'⟩ := mem_allLoadsL.mp hp
    let ⟨g, hg, hfg⟩ := hs.mem.1 f hf
    loadsOK_agree f g hfg (loadsOKL_iff.mp h1 f hf) (loadsOKL_iff.mp h2 g hg) p hp'

end Dds
