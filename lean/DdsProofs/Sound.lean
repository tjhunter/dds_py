import DdsProofs.EnvSound
/-!
# Sound stores

`Right k v`: `v` is the plain value of some chained, analysed call — in some version of the code — whose return signature
is `k`. By `sig_sound_full` it is then the plain value of *every* such call (`Right.plain`), so a signature has one right
value. `Sound S`: every blob of the store is the right value of its key.
-/
namespace Dds
open List

/-- `v` is the plain value of a chained, analysed call with signature `k`, run from a plain state that holds, at every path
the call loads, the blob (in `Ω`) of the signature the path resolved to -/
def Right (U : Universe) (m : Nat) (x : Nat) (Ω : Blobs) (k : Sg) (v : RVal) : Prop :=
  ∃ (W : World) (fn : Fn) (ctx : ArgCtx) (env : Env) (fuel : Nat) (refs : Refs) (stack : List String)
    (fis : FIS) (r : Refs) (p : PSt),
    U.world W ∧ W.extVersion = x ∧ U.fns fn ∧ Chain U m Ω W fn ctx env ∧
    analyse m W fuel refs stack fn ctx = .ok (fis, r) ∧ fis.retSig = k ∧ FIS.loadsOK Ω p.kept fis ∧
    (plainFn W fuel p fn env).1 = .ok v

def Sound (U : Universe) (m : Nat) (x : Nat) (S : PStore) : Prop :=
  ∀ k v, sgGet S.blobs k = some v → Right U m x S.blobs k v

section
variable {U : Universe} {m x : Nat} {Ω : Blobs} {W : World} {fn : Fn} {ctx : ArgCtx} {env : Env} {fuel : Nat} {refs : Refs}
  {stack : List String} {fis : FIS} {r : Refs}

theorem Right.intro {p : PSt} {v : RVal} (hW : U.world W) (hx : W.extVersion = x) (hU : U.fns fn)
    (hc : Chain U m Ω W fn ctx env) (ha : analyse m W fuel refs stack fn ctx = .ok (fis, r))
    (hl : FIS.loadsOK Ω p.kept fis) (hv : (plainFn W fuel p fn env).1 = .ok v) : Right U m x Ω fis.retSig v :=
  ⟨W, fn, ctx, env, fuel, refs, stack, fis, r, p, hW, hx, hU, hc, ha, rfl, hl, hv⟩

/-- **the right value of a signature is the plain value of every call with that signature**, in any version of the code,
from any plain state that holds the blobs of the paths the call loads. In a sound store: a served blob is the plain value of
the current call in the current version of the code. -/
theorem Right.plain {k : Sg} {v : RVal} (h : Right U m x Ω k v) (hW : U.world W) (hx : W.extVersion = x) (hU : U.fns fn)
    (hc : Chain U m Ω W fn ctx env) (ha : analyse m W fuel refs stack fn ctx = .ok (fis, r)) (hs : fis.retSig = k) (p : PSt)
    (hl : FIS.loadsOK Ω p.kept fis) : (plainFn W fuel p fn env).1 = .ok v := by
  obtain ⟨W0, fn0, ctx0, env0, fuel0, refs0, stack0, fis0, r0, p0, hW0, hx0, hU0, hc0, ha0, hs0, hl0, hv0⟩ := h
  rw [← hv0]
  exact sig_sound_full U m hc hc0 hW hW0 (hx.trans hx0.symm) hU hU0 ha ha0 (hs.trans hs0.symm) p p0 hl hl0

theorem Right.mono {Ω' : Blobs} {k : Sg} {v : RVal} (h : Right U m x Ω k v)
    (he : ∀ k v, sgGet Ω k = some v → sgGet Ω' k = some v) : Right U m x Ω' k v := by
  obtain ⟨W, fn, ctx, env, fuel, refs, stack, fis, r, p, hW, hx, hU, hc, ha, rfl, hl, hv⟩ := h
  exact .intro hW hx hU (hc.mono he) ha (loadsOK_mono he fis hl) hv

end

theorem Right.unique {U : Universe} {m x : Nat} {Ω : Blobs} {k : Sg} {v w : RVal} (h : Right U m x Ω k v)
    (h' : Right U m x Ω k w) : v = w := by
  obtain ⟨W, fn, ctx, env, fuel, refs, stack, fis, r, p, hW, hx, hU, hc, ha, hs, hl, hv⟩ := h'
  exact Except.ok.inj ((h.plain hW hx hU hc ha hs p hl).symm.trans hv)

def Extends (S S' : PStore) : Prop := ∀ k v, sgGet S.blobs k = some v → sgGet S'.blobs k = some v

theorem Extends.refl (S : PStore) : Extends S S := fun _ _ h => h
theorem Extends.trans {A B C : PStore} (h1 : Extends A B) (h2 : Extends B C) : Extends A C := fun k v h => h2 k v (h1 k v h)

theorem Sound.of_blobs {U : Universe} {m x : Nat} {S S' : PStore} (h : S'.blobs = S.blobs) (hS : Sound U m x S) :
    Sound U m x S' := fun k v hk => h ▸ hS k v (h ▸ hk)

theorem Extends.of_blobs {S S' S'' : PStore} (h : S''.blobs = S'.blobs) (he : Extends S S') : Extends S S'' :=
  fun k v hk => h ▸ he k v hk

theorem sound_empty (U : Universe) (m x : Nat) (noop : Bool) : Sound U m x { noop := noop } :=
  fun _ _ h => nomatch h

/-- storing a right value of a signature keeps every blob (the blob the signature has already, if any, is that value) and
keeps the store sound -/
theorem Sound.storeBlob_right {U : Universe} {m x : Nat} {S : PStore} (hS : Sound U m x S) {k : Sg} {v : RVal}
    (hR : Right U m x S.blobs k v) : Sound U m x (S.storeBlob k v) ∧ Extends S (S.storeBlob k v) := by
  have he : Extends S (S.storeBlob k v) := by
    intro k' v' h
    rw [sgGet_storeBlob_eq]
    split
    · rename_i e
      rw [← e.2] at h
      rw [(hS k v' h).unique hR]
    · exact h
  refine ⟨fun k' v' h => ?_, he⟩
  rw [sgGet_storeBlob_eq] at h
  split at h
  · rename_i e
    cases h
    exact e.2 ▸ hR.mono he
  · exact (hS k' v' h).mono he

/-- storing the plain value of a chained, analysed call under its signature keeps the store sound; `hnone` is not needed
(`storeBlob_right`: a blob the signature has already is that value) -/
theorem Sound.storeBlob {U : Universe} {m x : Nat} {S : PStore} (hS : Sound U m x S)
    {W : World} {fn : Fn} {ctx : ArgCtx} {env : Env} {fuel : Nat} {refs : Refs} {stack : List String}
    {fis : FIS} {r : Refs} {p : PSt} {v : RVal}
    (hW : U.world W) (hx : W.extVersion = x) (hU : U.fns fn) (hc : Chain U m S.blobs W fn ctx env)
    (ha : analyse m W fuel refs stack fn ctx = .ok (fis, r)) (hl : FIS.loadsOK S.blobs p.kept fis)
    (hv : (plainFn W fuel p fn env).1 = .ok v) (hnone : sgGet S.blobs fis.retSig = none) :
    Sound U m x (S.storeBlob fis.retSig v) :=
  (hS.storeBlob_right (.intro hW hx hU hc ha hl hv)).1

/-! ## What plain execution keeps at the paths of the evaluation -/

/-- at path `q`, plain execution holds the right value of the signature the evaluation maps the path to -/
def PKq (U : Universe) (m x : Nat) (Ω : Blobs) (paths : List (String × Sg)) (K : LoadEnv) (q : String) : Prop :=
  ∀ k, aget paths q = some k → ∃ v, aget K q = some v ∧ Right U m x Ω k v

def KStep (U : Universe) (m x : Nat) (Ω : Blobs) (paths : List (String × Sg)) (K K' : LoadEnv) : Prop :=
  ∀ q, aget K' q = aget K q ∨ PKq U m x Ω paths K' q

section
variable {U : Universe} {m x : Nat} {Ω : Blobs} {paths : List (String × Sg)}

theorem PKq.congr {K K' : LoadEnv} {q : String} (h : PKq U m x Ω paths K q) (e : aget K' q = aget K q) :
    PKq U m x Ω paths K' q := by
  intro k hk
  obtain ⟨v, h1, h2⟩ := h k hk
  exact ⟨v, e.trans h1, h2⟩

theorem KStep.refl (K : LoadEnv) : KStep U m x Ω paths K K := fun _ => Or.inl rfl

theorem PKq.step {K K' : LoadEnv} {q : String} (h : PKq U m x Ω paths K q) (hs : KStep U m x Ω paths K K') :
    PKq U m x Ω paths K' q :=
  (hs q).elim h.congr id

theorem KStep.trans {A B C : LoadEnv} (h1 : KStep U m x Ω paths A B) (h2 : KStep U m x Ω paths B C) :
    KStep U m x Ω paths A C := fun q =>
  (h2 q).elim (fun e => (h1 q).imp e.trans (·.congr e)) .inr

/-- the kept paths of a node whose children hold right values: after the value of the node is kept at its path -/
theorem pk_node {K K1 : LoadEnv} {nd : FIS} {v : RVal}
    (hK : KStep U m x Ω paths K K1) (hsub : ∀ q ∈ FIS.keptPathsL nd.subs, PKq U m x Ω paths K1 q)
    (hr : ∀ w, nd.storePath = some w → aget paths w = some nd.retSig ∧ Right U m x Ω nd.retSig v) :
    KStep U m x Ω paths K (match nd.storePath with | some w => aset K1 w v | none => K1) ∧
    ∀ q ∈ nd.keptPaths, PKq U m x Ω paths (match nd.storePath with | some w => aset K1 w v | none => K1) q := by
  cases hsp : nd.storePath with
  | none =>
    refine ⟨hK, fun q hq => ?_⟩
    rcases (keptPaths_iff nd q).mp hq with h | h
    · cases hsp.symm.trans h
    · exact hsub q h
  | some w =>
    obtain ⟨hkey, hR⟩ := hr w hsp
    have hpw : PKq U m x Ω paths (aset K1 w v) w := fun k hk =>
      ⟨v, aget_aset_eq _ _ _, Option.some.inj (hkey.symm.trans hk) ▸ hR⟩
    have hst : KStep U m x Ω paths K1 (aset K1 w v) := fun q => by
      by_cases hq : q = w
      · subst hq; exact .inr hpw
      · exact .inl (aget_aset_ne _ _ _ _ hq)
    refine ⟨hK.trans hst, fun q hq => ?_⟩
    rcases (keptPaths_iff nd q).mp hq with h | h
    · cases hsp.symm.trans h; exact hpw
    · exact (hsub q h).step hst

end

end Dds
