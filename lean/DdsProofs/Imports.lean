import DdsModel.Imports
import DdsProofs.Scope
/-!
# The imports of a function body are resolved as Python resolves them (`dds_refs_eq`)

As in `Scope.lean`, with a second flattening of the chain of scopes for the aliases (`flatA`, next to `flatL` for the local
names); `resolve_flat` is what `mem_flat` is there.
-/
namespace Dds.Imports
open List

def flatL : List Sc → List String
  | [] => []
  | s :: rest => enter (flatL rest) [] s.vars s.globs

def flatA (acc : Path → Bool) : List Sc → Aliases
  | [] => []
  | s :: rest => enterA acc (flatA acc rest) (s.vars ++ s.globs) s.imps

theorem mem_enter {L ps b g : List String} {x : String} :
    x ∈ enter L ps b g ↔ x ∉ g ∧ (x ∈ L ∨ x ∈ ps ∨ x ∈ b) := Scope.mem_enter

theorem lookup_filter_key (P : String → Bool) (x : String) (A : Aliases) :
    (A.filter (fun kv => P kv.1)).lookup x = if P x then A.lookup x else none := by
  induction A with
  | nil => simp
  | cons kv A ih =>
    obtain ⟨k, v⟩ := kv
    by_cases hx : x = k
    · subst hx
      cases hP : P x <;> simp [hP, ih]
    · have hb : (x == k) = false := beq_false_of_ne hx
      cases hP : P k <;> simp [hP, lookup_cons, hb, ih]

variable (acc : Path → Bool)

theorem lookup_enterA {A : Aliases} {own : List String} {imps : List (String × Path)} (x : String)
    (h : impsOK acc imps = true) :
    (enterA acc A own imps).lookup x = (imps.lookup x).or (if x ∈ own then none else A.lookup x) := by
  unfold enterA
  rw [filter_eq_self.mpr (all_eq_true.mp h), lookup_append]
  cases hl : imps.lookup x with
  | some p => rfl
  | none =>
    have hn : x ∉ imps.map Prod.fst := fun hm => by
      obtain ⟨kv, hkv, rfl⟩ := mem_map.mp hm
      simpa using lookup_eq_none_iff.mp hl kv hkv
    rw [Option.none_or, lookup_filter_key (fun k => decide (k ∉ own ∧ k ∉ imps.map Prod.fst))]
    by_cases ho : x ∈ own <;> simp [ho, hn]

def chainOK (chain : List Sc) : Prop := ∀ s ∈ chain, scOK acc s = true

theorem chainOK_cons {acc} {s : Sc} {chain : List Sc} (hs : impsOK acc s.imps = true) (h : chainOK acc chain) :
    chainOK acc (s :: chain) := forall_mem_cons.mpr ⟨hs, h⟩

/-- the two sets the code maintains describe Python's resolution of every name -/
theorem resolve_flat (x : String) (chain : List Sc) (h : chainOK acc chain) :
    resolve chain x = match (flatA acc chain).lookup x with
      | some p => .path p
      | none => if x ∈ flatL chain then .loc else .glob := by
  induction chain with
  | nil => rfl
  | cons s rest ih =>
    obtain ⟨hs, hrest⟩ := forall_mem_cons.mp h
    simp only [resolve, flatA, flatL, lookup_enterA acc x hs, mem_enter, ih hrest]
    cases s.imps.lookup x with
    | some p => rfl
    | none =>
      by_cases hg : x ∈ s.globs
      · simp [hg]
      · by_cases hv : x ∈ s.vars <;> simp [hg, hv]

theorem flatL_cons (chain : List Sc) (ps b g : List String) (i : List (String × Path)) :
    flatL (⟨ps ++ b, g, i⟩ :: chain) = enter (flatL chain) ps b g := rfl

/-- no hypothesis on the expression: a path already in it is looked up from the root by both -/
theorem extE_pyE (e : Expr) (chain : List Sc) (h : chainOK acc chain) :
    extE (flatL chain) (resE acc (flatA acc chain) e) = pyE chain e := by
  induction e generalizing chain with
  | name x =>
    simp only [resE, pyE, resolve_flat acc x chain h]
    cases (flatA acc chain).lookup x with
    | some p => rfl
    | none => by_cases hx : x ∈ flatL chain <;> simp [extE, hx]
  | const | path => rfl
  | attr e _ ih => exact ih chain h
  | app f a ihf iha => simp only [resE, extE, pyE, ihf chain h, iha chain h]
  | lam ps body ih =>
    -- `ps ++ []`, the form in which `enter (flatL chain) ps [] []` holds the parameters: `flatL_cons` is `rfl` for it
    have := ih (⟨ps ++ [], [], []⟩ :: chain) (chainOK_cons rfl h)
    rwa [flatL_cons, flatA, append_nil, append_nil] at this
  | comp ts it inn ihit ihinn =>
    have := ihinn (⟨ts, [], []⟩ :: chain) (chainOK_cons rfl h)
    rw [flatA, append_nil] at this
    simp only [resE, extE, pyE, ihit chain h]
    exact congrArg _ this

theorem boundS_resS (A : Aliases) (s : Stmt) : boundS (resS acc A s) = boundS s := by
  induction s with
  | seq a b iha ihb => simp only [resS, boundS, iha, ihb]
  | _ => rfl

theorem globalsS_resS (A : Aliases) (s : Stmt) : globalsS (resS acc A s) = globalsS s := by
  induction s with
  | seq a b iha ihb => simp only [resS, globalsS, iha, ihb]
  | _ => rfl

theorem extS_pyS (s : Stmt) (chain : List Sc) (h : chainOK acc chain) (hk : stmtOK acc s = true) :
    extS (flatL chain) (resS acc (flatA acc chain) s) = pyS chain s := by
  induction s generalizing chain with
  | expr e => exact extE_pyE acc e chain h
  | assign _ e => exact extE_pyE acc e chain h
  | defn _ ps hdr body ih =>
    simp only [stmtOK, Bool.and_eq_true] at hk
    have := ih (⟨ps ++ boundS body, globalsS body, impsS body⟩ :: chain) (chainOK_cons hk.1.2 h) hk.2
    rw [flatL_cons, flatA] at this
    simp only [resS, extS, pyS, extE_pyE acc hdr chain h, boundS_resS, globalsS_resS, this]
  | seq a b iha ihb =>
    obtain ⟨ha, hb⟩ := Bool.and_eq_true_iff.mp hk
    simp only [resS, extS, pyS, iha chain h ha, ihb chain h hb]
  | imp | global | skip => rfl

theorem dds_refs_eq (params : List String) (body : Stmt) (hb : stmtOK acc body = true)
    (hi : impsOK acc (impsS body) = true) : ddsRefs acc params body = pyRefs params body := by
  have := extS_pyS acc body [⟨params ++ boundS body, globalsS body, impsS body⟩] (chainOK_cons hi (fun _ h => nomatch h)) hb
  -- with no aliases outside, the names the top scope hides (`enterA acc [] _ _`) do not matter
  rwa [flatL_cons, flatA] at this

/-! ## A name with two bindings is refused; otherwise every binding of a name is the one that is looked up -/

theorem analyse_refuses (params : List String) (body : Stmt) (h : ambImps acc (impsS body) = true) :
    analyse acc params body = none := by simp [analyse, h]

theorem analyse_accepts (params : List String) (body : Stmt) (h1 : ambImps acc (impsS body) = false)
    (h2 : ambS acc body = false) : analyse acc params body = some (ddsRefs acc params body) := by simp [analyse, h1, h2]

/-- so the choice of "the first" binding in `resolve` and in `enterA` chooses nothing -/
theorem lookup_unique {imps : List (String × Path)} (hok : impsOK acc imps = true) (h : ambImps acc imps = false)
    {x : String} {p : Path} (hm : (x, p) ∈ imps) : imps.lookup x = some p := by
  cases hl : imps.lookup x with
  | none => simpa using lookup_eq_none_iff.mp hl _ hm
  | some q =>
    have hq : (x, q) ∈ imps := by
      obtain ⟨l₁, l₂, rfl, _⟩ := lookup_eq_some_iff.mp hl
      exact mem_append_right _ mem_cons_self
    by_cases hpq : q = p
    · rw [hpq]
    · exfalso
      have hacc : acc q = true := (List.all_eq_true.mp hok) _ hq
      have : ambImps acc imps = true := by
        simp only [ambImps, List.any_eq_true]
        exact ⟨(x, q), hq, (x, p), hm, by simp [hpq, hacc]⟩
      rw [h] at this
      cases this

/-! ## The computations before the repairs miss imported objects -/

/-- `def f(): from lz import model ; return model.score()` -/
def lazyImport : Stmt := .seq (.imp "model" ["lz", "model"]) (.expr (.app (.attr (.name "model") "score") .const))

/-- `def f(): for …: (use tool.run() ; else: from lz import fast as tool)`: the use comes first in the text -/
def useBeforeImport : Stmt := .seq (.expr (.app (.attr (.name "tool") "run") .const)) (.imp "tool" ["lz", "fast"])

/-- `def f(): def g(): from lz.sub import h ; return h()  ;  return g() + h()`: the second `h` is the module's -/
def nestedImport : Stmt :=
  .seq (.defn "g" [] .const (.seq (.imp "h" ["lz", "sub", "h"]) (.expr (.app (.name "h") .const))))
    (.expr (.app (.app (.name "g") .const) (.app (.name "h") .const)))

/-- `if flag: import lz.fast as impl / else: import lz.slow as impl` -/
def twoBindings : Stmt := .seq (.imp "impl" ["lz", "fast"]) (.seq (.imp "impl" ["lz", "slow"]) (.expr (.app (.attr (.name "impl") "run") .const)))

def accLz : Path → Bool := fun p => p.head? == some "lz"

theorem unresolved_misses_import :
    .path ["lz", "model"] ∈ pyRefs [] lazyImport ∧ .path ["lz", "model"] ∉ unresolvedRefs [] lazyImport := by decide +kernel
theorem text_order_misses_use_before_import :
    .path ["lz", "fast"] ∈ pyRefs [] useBeforeImport ∧ .path ["lz", "fast"] ∉ textRefs accLz [] useBeforeImport := by decide +kernel
theorem text_order_leaks_nested_import :
    .glob "h" ∈ pyRefs [] nestedImport ∧ .glob "h" ∉ textRefs accLz [] nestedImport := by decide +kernel
theorem two_bindings_refused : analyse accLz [] twoBindings = none := by decide +kernel

/-- `def f(): from lz import fast ; lz = 3 ; return fast.run()`: a local variable with the name of the root package -/
def rootAsLocal : Stmt :=
  .seq (.imp "fast" ["lz", "fast"]) (.seq (.assign ["lz"] .const) (.expr (.app (.attr (.name "fast") "run") .const)))

theorem chain_of_attributes_hidden_by_a_local :
    .path ["lz", "fast"] ∈ pyRefs [] rootAsLocal ∧ .path ["lz", "fast"] ∉ chainRefs accLz [] rootAsLocal := by decide +kernel

/-- the hypotheses of `dds_refs_eq` hold of these bodies, and the repaired computation finds what the old ones missed -/
example : stmtOK accLz lazyImport = true ∧ impsOK accLz (impsS lazyImport) = true ∧
    ddsRefs accLz [] lazyImport = [.path ["lz", "model"]] := by decide +kernel
example : stmtOK accLz nestedImport = true ∧ impsOK accLz (impsS nestedImport) = true ∧
    ddsRefs accLz [] nestedImport = [.path ["lz", "sub", "h"], .glob "h"] := by decide +kernel
example : ddsRefs accLz [] useBeforeImport = [.path ["lz", "fast"]] := by decide +kernel
example : stmtOK accLz rootAsLocal = true ∧ impsOK accLz (impsS rootAsLocal) = true ∧
    ddsRefs accLz [] rootAsLocal = [.path ["lz", "fast"]] := by decide +kernel

end Dds.Imports
