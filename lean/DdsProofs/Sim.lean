import DdsProofs.Sound
import DdsProofs.Frames
import DdsProofs.KnownArgs
/-!
# Simulation: running under dds against a sound store = plain execution

By induction on the nesting depth (`sim_fn`), along the analysis of the body. The analysis of a call with a run-time argument
rests on the context of the call site, so the walk over the items of a body keeps what `Chain.site` asks of the caller
(`BodyCtx`, `sub_chain`) next to what holds after the items walked so far (`WalkCtx`).
-/
namespace Dds
open List

/-- the version of the code that is evaluated: of the universe, with the non-accepted code at version `x` (dds does not track
it: `x` is the same throughout a history), without an explicit `keep` of a data function -/
structure EvalCtx (U : Universe) (x : Nat) (W : World) : Prop where
  hW : U.world W
  hx : W.extVersion = x
  hkp : W.keepsPlain

/-- What the simulation shows of a step — a call, an item, the items of a body — run under dds against the store `S` (result
`rx`) and plainly from the kept values `K` (result `rp`): the same value or error, a sound store that has every blob of `S`, kept
values changed only to right values, and on success `post` of what plain execution has kept. -/
def SimStep (U : Universe) (m x : Nat) (Ω : Blobs) (paths : List (String × Sg)) (S : PStore) (K : LoadEnv)
    (post : LoadEnv → Prop) {α : Type} (rx : Except XErr α × XSt) (rp : Except XErr α × PSt) : Prop :=
  rx.1 = rp.1 ∧ Sound U m x rx.2.store ∧ Extends S rx.2.store ∧ KStep U m x Ω paths K rp.2.kept ∧
  ∀ v, rp.1 = .ok v → post rp.2.kept

section
variable {U : Universe} {m x : Nat} {Ω : Blobs} {paths : List (String × Sg)} {S : PStore} {K : LoadEnv}
  {post post' : LoadEnv → Prop} {α : Type} {rx : Except XErr α × XSt} {rp : Except XErr α × PSt}

theorem SimStep.andThen {β : Type} {kx : α → XSt → Except XErr β × XSt} {kp : α → PSt → Except XErr β × PSt}
    (h : SimStep U m x Ω paths S K post rx rp)
    (hk : ∀ v, rp.1 = .ok v → Sound U m x rx.2.store → Extends S rx.2.store → post rp.2.kept →
      SimStep U m x Ω paths rx.2.store rp.2.kept post' (kx v rx.2) (kp v rp.2)) :
    SimStep U m x Ω paths S K post' (Dds.andThen rx kx) (Dds.andThen rp kp) := by
  obtain ⟨vx, sx⟩ := rx
  obtain ⟨vp, sp⟩ := rp
  obtain ⟨rfl, h2, h3, h4, h5⟩ := h
  cases vx with
  | error e => exact ⟨rfl, h2, h3, h4, fun _ h => nomatch h⟩
  | ok v =>
    obtain ⟨k1, k2, k3, k4, k5⟩ := hk v rfl h2 h3 (h5 v rfl)
    exact ⟨k1, k2, h3.trans k3, h4.trans k4, k5⟩

/-- on success plain execution keeps the value at the path of the node (if it has one), where it is the right value of
the node's signature; the paths kept below the node hold right values already -/
theorem SimStep.kept {nd : FIS} {ow : Option String} (hsp : nd.storePath = ow) {rx : XRes} {rp : PRes}
    (h : SimStep U m x Ω paths S K (fun K' => ∀ path ∈ FIS.keptPathsL nd.subs, PKq U m x Ω paths K' path) rx rp)
    (hr : ∀ v, rp.1 = .ok v → ∀ w, nd.storePath = some w → aget paths w = some nd.retSig ∧ Right U m x Ω nd.retSig v) :
    SimStep U m x Ω paths S K (fun K' => ∀ path ∈ nd.keptPaths, PKq U m x Ω paths K' path) rx
      (Dds.andThen rp fun v st' => (.ok v, match (generalizing := false) ow with
        | some p => { st' with kept := aset st'.kept p v }
        | none => st')) := by
  obtain ⟨r1, r2, r3, r4, r5⟩ := h
  obtain ⟨_ | v, sp⟩ := rp
  · exact ⟨r1, r2, r3, r4, fun _ h => nomatch h⟩
  · have hp := pk_node r4 (r5 v rfl) (hr v rfl)
    subst hsp
    refine ⟨r1, r2, r3, ?_⟩
    cases hw : nd.storePath <;> rw [hw] at hp <;> exact ⟨hp.1, fun _ _ => hp.2⟩

/-- the paths that held right values before the step hold right values after it -/
theorem SimStep.pk (h : SimStep U m x Ω paths S K post rx rp) {l : List String}
    (hpk : ∀ path ∈ l, PKq U m x Ω paths K path)
    (hpost : ∀ K', post K' → (∀ path ∈ l, PKq U m x Ω paths K' path) → post' K') :
    SimStep U m x Ω paths S K post' rx rp :=
  ⟨h.1, h.2.1, h.2.2.1, h.2.2.2.1, fun v hv => hpost _ (h.2.2.2.2 v hv) fun path hp => (hpk path hp).step h.2.2.2.1⟩

end

/-- `SimFn fuel`: the statement of `sim_fn` at one nesting depth; its conclusion is the `SimStep` of the two runs spelt out -/
def SimFn (U : Universe) (m x : Nat) (W : World) (paths : List (String × Sg)) (fuel : Nat) : Prop :=
  ∀ (fn : Fn) (ctx : ArgCtx) (env : Env) (refs : Refs) (stack : List String) (fis : FIS) (r : Refs) (st : XSt) (q : PSt)
    (Ω : Blobs),
    U.fns fn → fn ∈ W.funs → Chain U m Ω W fn ctx env → analyse m W fuel refs stack fn ctx = .ok (fis, r) →
    FIS.pathsOKL paths fis.subs → Sound U m x st.store → (∀ k v, sgGet Ω k = some v → sgGet st.store.blobs k = some v) →
    FIS.loadsOK Ω q.kept fis →
    (∀ p ∈ fis.allLoads, External paths p) →
    (∀ p s, External paths p → aget refs p = some s → aget st.store.paths p = some s) →
    (runFn W paths fuel st fn env).1 = (plainFn W fuel q fn env).1 ∧ Sound U m x (runFn W paths fuel st fn env).2.store ∧
    Extends st.store (runFn W paths fuel st fn env).2.store ∧
    KStep U m x Ω paths q.kept (plainFn W fuel q fn env).2.kept ∧
    (∀ v, (plainFn W fuel q fn env).1 = .ok v →
      ∀ path ∈ FIS.keptPathsL fis.subs, PKq U m x Ω paths (plainFn W fuel q fn env).2.kept path)

/-- **a kept call** (an explicit keep, a data function, a kept root) whose body is simulated: a hit is the plain value because
the store is sound, a miss stores a right value -/
theorem sim_keep {U : Universe} {m x : Nat} {W : World} {paths : List (String × Sg)} {fuel : Nat} (E : EvalCtx U x W)
    {g : Fn} {ctx : ArgCtx} {refs0 : Refs} {stack0 : List String} {fis : FIS} {rf : Refs}
    (ha : analyse m W fuel refs0 stack0 g ctx = .ok (fis, rf)) {xst : XSt} {q : PSt} {Ω : Blobs}
    (hS : Sound U m x xst.store) (hΩ : ∀ k v, sgGet Ω k = some v → sgGet xst.store.blobs k = some v)
    (hl : FIS.loadsOK Ω q.kept fis) {env' : Env} {w : String} (hUg : U.fns g) (hc : Chain U m Ω W g ctx env')
    (hkey : aget paths w = some fis.retSig) {post : LoadEnv → Prop}
    (h : SimStep U m x Ω paths xst.store q.kept post (runFn W paths fuel xst g env') (plainFn W fuel q g env')) :
    SimStep U m x Ω paths xst.store q.kept post (keepExec paths (runFn W paths fuel) xst w g env')
      (plainFn W fuel q g env') := by
  obtain ⟨h1, h2, h3, h45⟩ := h
  cases hblob : sgGet xst.store.blobs fis.retSig with
  | some v =>
    rw [keepExec_hit hkey hblob]
    exact ⟨((hS _ _ hblob).plain E.hW E.hx hUg (hc.mono hΩ) ha rfl q (loadsOK_mono hΩ fis hl)).symm, hS, Extends.refl _, h45⟩
  | none =>
    rw [keepExec_miss hkey hblob]
    generalize runFn W paths fuel xst g env' = rx at h1 h2 h3
    obtain ⟨_ | v, sx⟩ := rx
    · exact ⟨h1, h2, h3, h45⟩
    · have hΩ' : ∀ k v, sgGet Ω k = some v → sgGet sx.store.blobs k = some v := fun k v h => h3 k v (hΩ k v h)
      obtain ⟨s1, s2⟩ := Sound.storeBlob_right h2
        (.intro E.hW E.hx hUg (hc.mono hΩ') ha (loadsOK_mono hΩ' fis hl) h1.symm)
      exact ⟨h1, s1, h3.trans s2, h45⟩

/-! ## The body of a call that is being run -/

/-- the body of an analysed, chained call that is being run: the whole body has been analysed (`sfin`), the plain state `q0` the
body is run from holds, at every (external) path loaded in the body or below, the blob of the signature it resolved to -/
structure BodyCtx (U : Universe) (m x : Nat) (W : World) (paths : List (String × Sg)) (fuel : Nat) (fn : Fn) (cctx : ArgCtx)
    (env : Env) (ev : List (String × Sg)) (io : Option Sg) (refs : Refs) (Ω0 : Blobs) (q0 : PSt)
    (sfin : VisitSt) (deps : List (String × Sg)) : Prop where
  E : EvalCtx U x W
  hU : U.fns fn
  hfW : fn ∈ W.funs
  hch : Chain U m Ω0 W fn cctx env
  hev : hashVars m fn.vars = .ok ev
  hio : buildReturnSig none cctx [] [] fn.exts ev = .ok io
  hdeps : lookupRefs sfin.refs (dedupStr sfin.loads) = .ok deps
  hok : FIS.pathsOKL paths sfin.inters
  hlsubs : FIS.loadsOKL Ω0 q0.kept sfin.inters
  hlown : ∀ ps ∈ deps, ∃ v, sgGet Ω0 ps.2 = some v ∧ aget q0.kept ps.1 = some v
  hextL : ∀ p ∈ sfin.loads, External paths p
  hextT : ∀ p ∈ FIS.allLoadsL sfin.inters, External paths p

/-- the functions already referenced by name in this body: analysed, chained, their interaction tree part of the body's -/
def SeenOK (U : Universe) (m : Nat) (W : World) (paths : List (String × Sg)) (fuel : Nat) (Ω : Blobs) (refsE : Refs)
    (sfin : VisitSt) (seen : List String) : Prop :=
  ∀ f ∈ seen, ∃ (g : Fn) (ctx : ArgCtx) (fis : FIS) (rf refs0 : Refs) (stack0 : List String),
    W.find f = some g ∧ analyse m W fuel refs0 stack0 g ctx = .ok (fis, rf) ∧
    (∀ env', bindRun g.params [] [] 0 = some env' → Chain U m Ω W g ctx env') ∧ fis ∈ sfin.inters ∧
    (∀ p, External paths p → aget refs0 p = aget refsE p)

theorem SeenOK.mono {U : Universe} {m : Nat} {W : World} {paths : List (String × Sg)} {fuel : Nat} {Ω Ω' : Blobs} {refsE : Refs}
    {sfin : VisitSt} {seen : List String}
    (h : SeenOK U m W paths fuel Ω refsE sfin seen) (he : ∀ k v, sgGet Ω k = some v → sgGet Ω' k = some v) :
    SeenOK U m W paths fuel Ω' refsE sfin seen := by
  intro f hf
  obtain ⟨g, ctx, fis, rf, refs0, stack0, h1, h2, h3, h4, h5⟩ := h f hf
  exact ⟨g, ctx, fis, rf, refs0, stack0, h1, h2, fun env' hb => (h3 env' hb).mono he, h4, h5⟩

section
variable {U : Universe} {m x : Nat} {W : World} {paths : List (String × Sg)} {fuel : Nat} {fn : Fn} {cctx : ArgCtx}
  {env : Env} {ev : List (String × Sg)} {io : Option Sg} {stack : List String} {refs : Refs} {Ω0 : Blobs} {q0 : PSt}
  {sfin : VisitSt} {deps : List (String × Sg)}
  (B : BodyCtx U m x W paths fuel fn cctx env ev io refs Ω0 q0 sfin deps)
  {pre : List Item} {it : Item} {post : List Item} {s : VisitSt} (hitems : fn.items = pre ++ it :: post)
  (hvis : visitItems m W (analyse m W fuel) fn (io.getD (hJoin [])) stack { refs := refs } pre = .ok s)
  (hsuf : visitItems m W (analyse m W fuel) fn (io.getD (hJoin [])) stack s (it :: post) = .ok sfin)
include B hitems hvis hsuf

/-- at any point of the analysis of the body, an external path resolves as at the entry and as at the end -/
theorem BodyCtx.refs_at {p : String} (hp : External paths p) : aget s.refs p = aget refs p ∧ aget sfin.refs p = aget s.refs p := by
  obtain ⟨d, hd⟩ := visitItems_grows hsuf
  have hA := aframe m W paths B.E.hkp fuel
  exact ⟨visitItems_refs_frame hA B.E.hkp B.hfW (fun y hy => hitems ▸ mem_append_left _ hy) hvis
      (pathsOKL_append.mp (hd ▸ B.hok)).1 hp,
    visitItems_refs_frame hA B.E.hkp B.hfW (fun y hy => hitems ▸ mem_append_right _ hy) hsuf B.hok hp⟩

/-- … so a path loaded in the body resolves there to the signature whose blob the plain state the body is run from holds -/
theorem BodyCtx.loaded {path : String} (hp : path ∈ sfin.loads) :
    ∃ sg v, aget s.refs path = some sg ∧ sgGet Ω0 sg = some v ∧ aget q0.kept path = some v := by
  obtain ⟨⟨_, sg⟩, hm, rfl⟩ := mem_map.mp (lookupRefs_fst B.hdeps ▸ (mem_dedupStr path _).mpr hp)
  obtain ⟨v, h3, h4⟩ := B.hlown _ hm
  exact ⟨sg, v, (B.refs_at hitems hvis hsuf (B.hextL _ hp)).2 ▸ lookupRefs_get B.hdeps _ hm, h3, h4⟩

/-- the chain of a call made from the body of a chained call -/
theorem sub_chain {results : List RVal}
    (hres : (plainItems W (plainFn W fuel) env q0 [] pre).1 = .ok results)
    {f : String} {args : List AstArg} {kwargs : List (String × AstArg)} {rtA : List (Option RtExpr)}
    {rtK : List (String × Option RtExpr)} (hcallee : it.callee = some (f, args, kwargs, rtA, rtK))
    {g : Fn} {c : Option Sg} {named : List (String × Option Sg)} {fis : FIS} {rf : Refs}
    (hstep : CallStep m W (analyse m W fuel) fn (io.getD (hJoin [])) stack s f args kwargs it.line g c named fis rf)
    {env' : Env} (hbind : bindRun g.params (zipArgs results env args rtA) (zipKw results env kwargs rtK) 0 = some env') :
    Chain U m Ω0 W g ⟨named, c⟩ env' := by
  cases hall : allSome named with
  | some kvs =>
    have hconst := fun v hv => U.constsIn fn B.hU it (hitems ▸ mem_append_right _ mem_cons_self) v (callee_consts hcallee hv)
    exact .of_consts U Ω0 W (U.find B.E.hW hstep.find) c (fun v hv => hconst v (.inl hv))
      (fun n v hv => hconst v (.inr ⟨n, hv⟩)) hstep.hnamed hall hbind
  | none =>
    obtain ⟨bh, _, hc⟩ := siteCtx_inv hstep.site
    obtain ⟨k, hk⟩ := contextSig_isSome bh (io.getD (hJoin []))
      (hashCommut (fisSigList (s.inters.map FIS.retSig) ++ loadsSigList s.refs (dedupStr s.loads)))
    rw [hk] at hc
    subst hc
    -- the calls analysed and the paths loaded so far are among those of the whole body
    obtain ⟨d, hd⟩ := visitItems_grows hsuf
    obtain ⟨dl, hdl⟩ := visitItems_loads_grow hsuf
    exact Chain.site W fn cctx env fuel stack refs pre it post s results q0 f args kwargs rtA rtK g k named fis rf env' ev io
      B.hch B.E.hW B.hU hitems B.hev B.hio hvis hres (loadsOKL_append.mp (hd ▸ B.hlsubs)).1
      (fun path hp => B.loaded hitems hvis hsuf (hdl ▸ mem_append_left _ hp)) hcallee hstep hall hbind

end

/-! ## The items of a body -/

/-- the walk after the items `pre` of the body: analysed up to `s`, run plainly from `q0` up to `q` with `results`, and under dds
up to `xst` -/
structure WalkCtx (U : Universe) (m x : Nat) (W : World) (paths : List (String × Sg)) (fuel : Nat) (fn : Fn) (env : Env)
    (io : Option Sg) (stack : List String) (refs : Refs) (Ω0 : Blobs) (q0 : PSt) (sfin : VisitSt) (pre : List Item)
    (s : VisitSt) (results : List RVal) (q : PSt) (xst : XSt) : Prop where
  hvis : visitItems m W (analyse m W fuel) fn (io.getD (hJoin [])) stack { refs := refs } pre = .ok s
  hplain : plainItems W (plainFn W fuel) env q0 [] pre = (.ok results, q)
  hseen : SeenOK U m W paths fuel Ω0 refs sfin s.seen
  hS : Sound U m x xst.store
  he : ∀ k v, sgGet Ω0 k = some v → sgGet xst.store.blobs k = some v
  hok : FIS.pathsOKL paths s.inters
  hrc : ∀ p sg, External paths p → aget refs p = some sg → aget xst.store.paths p = some sg
  hpk : ∀ path ∈ FIS.keptPathsL s.inters, PKq U m x Ω0 paths q.kept path

section
variable {U : Universe} {m x : Nat} {W : World} {paths : List (String × Sg)} {fuel : Nat}
  (hIH : SimFn U m x W paths fuel) {fn : Fn} {cctx : ArgCtx}
  {env : Env} {ev : List (String × Sg)} {io : Option Sg} {stack : List String} {refs : Refs} {Ω0 : Blobs} {q0 : PSt}
  {sfin : VisitSt} {deps : List (String × Sg)}
  (B : BodyCtx U m x W paths fuel fn cctx env ev io refs Ω0 q0 sfin deps)
  {pre : List Item} {s : VisitSt} {results : List RVal} {q : PSt} {xst : XSt}
  (A : WalkCtx U m x W paths fuel fn env io stack refs Ω0 q0 sfin pre s results q xst)
include A

/-- plain execution of the items walked so far has left what is kept at the external paths alone (`pframe`) -/
theorem WalkCtx.kframe : KFrame paths q0 q := by
  have h := plainItems_frame (pframe m W paths fuel) env pre [] q0 A.hvis A.hok fun _ hf => nomatch hf
  rwa [A.hplain] at h

include hIH B

/-- **a call made from the body**: its callee `g` is analysed (tree `fis`, recorded in the tree of the body as kept at `kp` or at
the callee's own path), from references that resolve the external paths as the body's do, and chained if its arguments bind -/
theorem sim_call {f : String} {g : Fn} {ctx : ArgCtx} {refs0 : Refs} {stack0 : List String} {fis : FIS} {rf : Refs}
    (hfind : W.find f = some g) (ha : analyse m W fuel refs0 stack0 g ctx = .ok (fis, rf)) (kp : Option String)
    (hin : fis.kept kp ∈ sfin.inters) (hr0 : ∀ p, External paths p → aget refs0 p = aget refs p)
    (pos : List RVal) (kw : List (String × RVal))
    (hch : ∀ env', bindRun g.params pos kw 0 = some env' → Chain U m Ω0 W g ctx env') :
    SimStep U m x Ω0 paths xst.store q.kept (fun K => ∀ path ∈ (fis.kept kp).keptPaths, PKq U m x Ω0 paths K path)
      (runCall W paths (runFn W paths fuel) xst f pos kw kp) (callRes W (plainFn W fuel) q f pos kw kp) := by
  obtain ⟨k1, k2⟩ := (pathsOK_kept ha paths kp).mp (pathsOKL_iff.mp B.hok _ hin)
  have hUg := U.find B.E.hW hfind
  -- the loads of the callee's tree: external, and the current plain state holds their blobs
  have hext : ∀ p ∈ fis.allLoads, External paths p := fun p hp =>
    B.hextT p (allLoadsL_mem hin ((kept_allLoads fis kp).symm ▸ hp))
  have hl := loadsOK_transfer fis (fun p hp => A.kframe p (hext p hp))
    ((loadsOK_kept ..).mp (loadsOKL_iff.mp B.hlsubs _ hin))
  cases hb : bindRun g.params pos kw 0 with
  | none =>
    rw [runCall_unbound hfind hb, callRes_unbound hfind hb]
    exact ⟨rfl, A.hS, Extends.refl _, KStep.refl _, fun _ h => nomatch h⟩
  | some env' =>
    have hc := hch env' hb
    have hsp : (fis.kept kp).storePath = kp.or g.storePath := by rw [FIS.kept_storePath, analyse_storePath ha]
    rw [runCall_bound hfind hb, callRes_bound hfind hb]
    have hrun : SimStep U m x Ω0 paths xst.store q.kept
        (fun K => ∀ path ∈ FIS.keptPathsL (fis.kept kp).subs, PKq U m x Ω0 paths K path)
        (match kp.or g.storePath with
          | some w => keepExec paths (runFn W paths fuel) xst w g env'
          | none => runFn W paths fuel xst g env') (plainFn W fuel q g env') := by
      have hbody := hIH g ctx env' refs0 stack0 fis rf xst q Ω0 hUg (List.mem_of_find?_eq_some hfind) hc ha k2 A.hS A.he hl
        hext fun p sg hp h => A.hrc p sg hp (hr0 p hp ▸ h)
      rw [FIS.kept_subs]
      cases hw : kp.or g.storePath with
      | none => exact hbody
      | some w => exact sim_keep B.E ha A.hS A.he hl hUg hc (k1 w hw) hbody
    exact hrun.kept hsp fun v hv w hw => by
      rw [FIS.kept_retSig]
      exact ⟨k1 w (hsp ▸ hw), .intro B.E.hW B.E.hx hUg hc ha hl hv⟩

theorem sim_item {its : List Item} {it : Item} {t : VisitSt} (hitems : fn.items = pre ++ it :: its)
    (hv : visitItem m W (analyse m W fuel) fn (io.getD (hJoin [])) stack s it = .ok t)
    (hr : visitItems m W (analyse m W fuel) fn (io.getD (hJoin [])) stack t its = .ok sfin) :
    SimStep U m x Ω0 paths xst.store q.kept (fun K => ∀ path ∈ FIS.keptPathsL t.inters, PKq U m x Ω0 paths K path)
      (runItemRes W paths (runFn W paths fuel) env xst results it) (plainItemRes W (plainFn W fuel) env q results it) ∧
    SeenOK U m W paths fuel Ω0 refs sfin t.seen := by
  have hsuf : visitItems m W (analyse m W fuel) fn (io.getD (hJoin [])) stack s (it :: its) = .ok sfin := by
    simp only [visitItems, hv, ok_bind]
    exact hr
  cases visitItem_inv hv with
  | load path line =>
    -- the path is external and is loaded by the body: the store has committed it to a key, and the plain state holds
    -- the blob under that key
    obtain ⟨dl, hdl⟩ := visitItems_loads_grow hr
    have hpf : path ∈ sfin.loads := hdl ▸ mem_append_left _ (mem_append_right _ mem_cons_self)
    have hpe := B.hextL path hpf
    obtain ⟨sg, v, h1, h3, h4⟩ := B.loaded hitems A.hvis hsuf hpf
    rw [runItemRes_load_ok hpe (A.hrc path sg hpe ((B.refs_at hitems A.hvis hsuf hpe).1 ▸ h1)) (A.he sg v h3),
      plainItemRes_load_ok ((A.kframe path hpe).trans h4)]
    exact ⟨⟨rfl, A.hS, Extends.refl _, KStep.refl _, fun _ _ => A.hpk⟩, A.hseen⟩
  | seen f line hin =>
    obtain ⟨g, ctx, fis, rf, refs0, stack0, hfind, ha, hch, hfin, hr0⟩ := A.hseen f hin
    have hsim := sim_call hIH B A hfind ha none hfin hr0 [] [] hch
    rw [runItemRes_callee (it := .ref f line) rfl, plainItemRes_callee (.ref f line) rfl]
    exact ⟨hsim.pk A.hpk fun _ _ h => h, A.hseen⟩
  | @call _ f args kwargs rtA rtK g ctx named fis rf hc hnew hstep =>
    have hin := mem_inters_afterCall hr
    have hsr : ∀ p, External paths p → aget s.refs p = aget refs p := fun p hp => (B.refs_at hitems A.hvis hsuf hp).1
    have hch : ∀ env', bindRun g.params (zipArgs results env args rtA) (zipKw results env kwargs rtK) 0 = some env' →
        Chain U m Ω0 W g ⟨named, ctx⟩ env' :=
      fun env' hb => sub_chain B hitems A.hvis hsuf (by rw [A.hplain]) hc hstep hb
    have hsim := sim_call hIH B A hstep.find hstep.sub it.keepPath hin hsr _ _ hch
    rw [runItemRes_callee hc, plainItemRes_callee it hc]
    refine ⟨hsim.pk A.hpk fun _ h hl => forall_keptPathsL_snoc hl h, forall_seen_afterCall A.hseen fun hr' => ?_⟩
    obtain ⟨l, rfl⟩ := Item.eq_ref hr' hc
    cases hc
    exact ⟨_, _, _, _, _, _, hstep.find, hstep.sub, hch, hin, hsr⟩

theorem sim_items (its : List Item) (hitems : fn.items = pre ++ its)
    (hrest : visitItems m W (analyse m W fuel) fn (io.getD (hJoin [])) stack s its = .ok sfin) :
    SimStep U m x Ω0 paths xst.store q.kept (fun K => ∀ path ∈ FIS.keptPathsL sfin.inters, PKq U m x Ω0 paths K path)
      (runItems W (some paths) (runFn W paths fuel) fn env xst results its)
      (plainItems W (plainFn W fuel) env q results its) := by
  induction its generalizing pre s results q xst with
  | nil =>
    cases hrest
    exact ⟨rfl, A.hS, Extends.refl _, KStep.refl _, fun _ _ => A.hpk⟩
  | cons it its ih =>
    obtain ⟨t, hv, hr⟩ := visitItems_cons_inv hrest
    obtain ⟨hsim, hseen'⟩ := sim_item hIH B A hitems hv hr
    rw [runItems_step, plainItems_step]
    refine hsim.andThen fun v hvp hS' he' hpk' => ih (pre := pre ++ [it]) ?_ (by rw [hitems, append_assoc]; rfl) hr
    have hpaths := runItemRes_frame PStore.paths storeBlob_paths' (runFn_paths W paths fuel) W paths env xst results it
    exact { hvis := visitItems_snoc A.hvis hv, hplain := plainItems_snoc A.hplain (Prod.ext hvp rfl), hseen := hseen', hS := hS',
            he := fun k w h => he' k w (A.he k w h), hrc := hpaths ▸ A.hrc, hpk := hpk',
            hok := pathsOKL_iff.mpr fun nd h => pathsOKL_iff.mp B.hok nd (mem_inters_of_visitItems hr h) }

end

/-- **Simulation theorem**: at every nesting depth, the body of an analysed, chained call run under dds — with the path map of
the evaluation, against a sound store — returns what plain execution returns from a state that holds the blobs of the (external)
paths the call loads, leaves a sound store and loses no blob; and plain execution leaves, at every path kept below the call, the
right value of the signature the evaluation maps the path to -/
theorem sim_fn (U : Universe) (m x : Nat) (W : World) (paths : List (String × Sg)) (E : EvalCtx U x W) :
    ∀ fuel, SimFn U m x W paths fuel := by
  intro fuel
  induction fuel with
  | zero => exact fun _ _ _ _ _ _ _ _ _ _ _ _ _ ha => absurd ha analyse_zero
  | succ k ih =>
    intro fn ctx env refs stack fis r st q Ω hU hfW hch ha hsubs hS hΩ hl hext hrc
    obtain ⟨ev, io, sv, b, d, ret, a⟩ := analyse_inv ha
    obtain ⟨l1, l2⟩ := (loadsOK_iff _ _ _).mp hl
    rw [a.loads] at l1
    rw [a.subs] at l2 hsubs
    have B : BodyCtx U m x W paths k fn ctx env ev io refs Ω { q with log := q.log ++ [fn.name] } sv d :=
      { E := E, hU := hU, hfW := hfW, hch := hch, hev := a.hvars, hio := a.hinput, hdeps := a.hdeps,
        hok := hsubs, hlsubs := l2, hlown := l1,
        hextL := fun p hp => hext p (a.loads_sub p hp), hextT := fun p hp => hext p (a.subLoads_sub p hp) }
    have A : WalkCtx U m x W paths k fn env io stack refs Ω { q with log := q.log ++ [fn.name] } sv [] { refs := refs } []
        { q with log := q.log ++ [fn.name] } { st with log := st.log ++ [fn.name] } :=
      { hvis := rfl, hplain := rfl, hseen := (fun f hf => nomatch hf), hS := hS, he := hΩ, hok := trivial, hrc := hrc,
        hpk := fun path hp => nomatch hp }
    rw [runFn_step, plainFn_step, a.subs]
    show SimStep U m x Ω paths st.store q.kept (fun K => ∀ path ∈ FIS.keptPathsL sv.inters, PKq U m x Ω paths K path) _ _
    refine (sim_items ih B A fn.items rfl a.hvisit).andThen fun rs _ h2 _ h5 => ?_
    cases fn.fails with
    | some kind => exact ⟨rfl, h2, Extends.refl _, KStep.refl _, fun _ h => nomatch h⟩
    | none => exact ⟨rfl, h2, Extends.refl _, KStep.refl _, fun _ _ => h5⟩

end Dds
