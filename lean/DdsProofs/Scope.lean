import DdsModel.Scope
/-!
# The names the analysis looks up in the module are exactly the names Python reads from the module

The one set of local names of the code is the flattening (`flat`) of Python's chain of scopes: entering a scope is pushing
it on the chain, by unfolding. So a name is decided by `mem_flat`, and where the syntax opens a scope the induction hypothesis
at the longer chain is the goal.
-/
namespace Dds.Scope
open List

/-- the local names the code holds inside the scopes of a chain (innermost first) -/
def flat : List Sc → List String
  | [] => []
  | s :: rest => enter (flat rest) [] s.bound s.globs

theorem mem_enter {L ps b g : List String} {x : String} :
    x ∈ enter L ps b g ↔ x ∉ g ∧ (x ∈ L ∨ x ∈ ps ∨ x ∈ b) := by
  simp only [enter, mem_append, mem_filter, decide_eq_true_eq]
  rw [← or_and_right, and_comm]

theorem mem_flat (x : String) (chain : List Sc) : x ∈ flat chain ↔ isGlobal chain x = false := by
  induction chain with
  | nil => simp [flat, isGlobal]
  | cons s rest ih =>
    simp only [flat, mem_enter, isGlobal, ih]
    by_cases hg : x ∈ s.globs
    · simp [hg]
    · by_cases hb : x ∈ s.bound <;> simp [hg, hb]

theorem extE_reads (e : Expr) (chain : List Sc) : extE (flat chain) e = readsE chain e := by
  induction e generalizing chain with
  | name x =>
    simp only [extE, readsE, mem_flat]
    cases isGlobal chain x <;> rfl
  | const => rfl
  | attr e _ ih => exact ih chain
  | app f a ihf iha => simp only [extE, readsE, ihf, iha]
  -- `flat (⟨ps ++ b, g⟩ :: chain)` unfolds to `enter (flat chain) ps b g` (up to `[] ++ l = l`)
  | lam ps body ih => exact ih (⟨ps ++ boundE body, []⟩ :: chain)
  | comp ts it inn ihit ihinn => simp only [extE, readsE, ihit, ← ihinn (⟨ts, []⟩ :: chain)]; rfl
  | walrus _ e ih => exact ih chain

theorem extS_reads (s : Stmt) (chain : List Sc) : extS (flat chain) s = readsS chain s := by
  induction s generalizing chain with
  | expr e => exact extE_reads e chain
  | assign _ e => exact extE_reads e chain
  | defn _ ps hdr body ih =>
    simp only [extS, readsS, extE_reads hdr chain, ← ih (⟨ps ++ boundS body, globalsS body⟩ :: chain)]; rfl
  | seq a b iha ihb => simp only [extS, readsS, iha, ihb]
  | del | global | nonlocal | exceptAs | skip => rfl

theorem dds_names_eq (params : List String) (body : Stmt) : ddsNames params body = pyGlobalReads params body :=
  extS_reads body [⟨params ++ boundS body, globalsS body⟩]

/-! ## The computation before the fix misses module names -/

/-- `def f(): return X + sum([X for X in range(3)])` -/
def shadowComp : Stmt :=
  .expr (.app (.name "X") (.app (.name "sum") (.comp ["X"] (.app (.name "range") .const) (.name "X"))))

/-- `def f():  def inner(): Z = 5; return Z  ;  return inner() + Z` -/
def shadowNested : Stmt :=
  .seq (.defn "inner" [] .const (.seq (.assign ["Z"] .const) (.expr (.name "Z"))))
    (.expr (.app (.app (.name "inner") .const) (.name "Z")))

theorem old_misses_comprehension : "X" ∈ pyGlobalReads [] shadowComp ∧ "X" ∉ oldNames [] shadowComp := by decide +kernel
theorem old_misses_nested : "Z" ∈ pyGlobalReads [] shadowNested ∧ "Z" ∉ oldNames [] shadowNested := by decide +kernel
/-- the computation as it is finds both, and keeps `inner` local -/
example : "X" ∈ ddsNames [] shadowComp ∧ "Z" ∈ ddsNames [] shadowNested ∧ "inner" ∉ ddsNames [] shadowNested := by decide +kernel

end Dds.Scope
