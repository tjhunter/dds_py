import DdsModel.Codec
import DdsProofs.Assoc
/-! Lemmas for C17 / C19. -/
namespace Dds
open List

theorem addFileCodec_protocols (r : Registry) (c c' : Codec) (h : aget r.protocols c.ref = some c) :
    aget (r.addFileCodec c').protocols c.ref = some c := by
  dsimp only [Registry.addFileCodec]
  split
  · exact h
  · rename_i hn
    rw [aget_aset, if_neg (fun hr => hn (by rw [hr, h]; rfl))]; exact h

theorem protocols_preserved (r : Registry) (c : Codec) (op : RegOp)
    (h : aget r.protocols c.ref = some c) (hop : op.codec.ref = c.ref → op.codec = c) :
    aget (r.apply op).protocols c.ref = some c := by
  cases op with
  | addCodec c' =>
    simp only [Registry.apply, Registry.addCodec, aget_aset]
    split
    · rename_i hr; rw [show c' = c from hop hr]
    · exact h
  | addFileCodec c' => exact addFileCodec_protocols r c c' h

theorem protocols_preserved_all (c : Codec) (ops : List RegOp) (r : Registry)
    (h : aget r.protocols c.ref = some c) (hops : ∀ op ∈ ops, op.codec.ref = c.ref → op.codec = c) :
    aget (ops.foldl Registry.apply r).protocols c.ref = some c := by
  induction ops generalizing r with
  | nil => exact h
  | cons op ops ih =>
    exact ih _ (protocols_preserved r c op h (hops op mem_cons_self)) fun o ho => hops o (mem_cons_of_mem _ ho)

/-! ### DBFS commits

What a commit does to one path is said once (`DbfsSt.Step`) and carried over the list by `syncAll_inv` (what every step
keeps, whether the commit succeeds or stops at a missing blob) and `dbfs_sync_redirect` (the table when all is done). -/

theorem dbfs_sync_none (s : DbfsSt) (ps : List (DPath × Key)) : s.syncAll .noCommit ps = (s, true) := by
  cases ps with
  | nil => rfl
  | cons pk ps => obtain ⟨p, k⟩ := pk; rfl

/-- the key of the last pair of `ps` whose path is `q` -/
def lastKey : List (DPath × Key) → DPath → Option Key
  | [], _ => none
  | (p, k) :: ps, q => match lastKey ps q with
    | some k' => some k'
    | none => if p = q then some k else none

/-- `ps` after `(p, k)`, on a table that answers `r` at `q` -/
theorem lastKey_cons (p : DPath) (k : Key) (ps : List (DPath × Key)) (q : DPath) (r : Option Key) :
    (lastKey ((p, k) :: ps) q).orElse (fun _ => r) =
      (lastKey ps q).orElse (fun _ => if p = q then some k else r) := by
  rw [lastKey]
  cases lastKey ps q with
  | some k' => rfl
  | none => by_cases e : p = q <;> simp only [e, if_true, if_false] <;> rfl

/-- `lastKey` is also what the dictionary's `sync` computes: with `dbfs_sync_redirect`, the redirection table after a commit
that succeeds answers as `Dict`'s path table after `.sync ps`. The comparison of DBFS with `Dict` goes no further: no
theorem speaks of `DbfsSt.step` or `DbfsSt.resolveAll`. -/
theorem aget_syncAll : ∀ (ps : List (DPath × Key)) (paths : List (DPath × Key)) (q : DPath),
    aget (syncAll paths ps) q = (lastKey ps q).orElse (fun _ => aget paths q) := by
  intro ps
  induction ps with
  | nil => exact fun _ _ => rfl
  | cons pk ps ih =>
    intro paths q
    rw [lastKey_cons, ← aget_aset]
    exact ih (aset paths pk.1 pk.2) q

/-- under FULL every recorded path has a byte-identical copy of its blob under the data directory -/
def DbfsFullInv (s : DbfsSt) : Prop :=
  ∀ p k, aget s.redirect p = some k → ∃ b, aget s.blobs k = some b ∧ aget s.data p = some b

/-- what the commit of one path `p ↦ k` does to the state when it does not raise -/
inductive DbfsSt.Step (ct : CommitType) (s : DbfsSt) (p : DPath) (k : Key) : DbfsSt → Prop
  | skip : aget s.redirect p = some k → Step ct s p k s
  | link : ct = .linkOnly → Step ct s p k { s with redirect := aset s.redirect p k }
  | copy (b : List UInt8) : ct = .full → aget s.blobs k = some b →
      Step ct s p k { s with data := aset s.data p b, redirect := aset s.redirect p k }

theorem DbfsSt.syncAll_cons {ct : CommitType} (hct : ct ≠ .noCommit) (s : DbfsSt) (p : DPath) (k : Key)
    (ps : List (DPath × Key)) :
    (∃ s', DbfsSt.Step ct s p k s' ∧ s.syncAll ct ((p, k) :: ps) = s'.syncAll ct ps) ∨
    (ct = .full ∧ ¬ ((aget s.metas k).isSome ∧ (aget s.blobs k).isSome) ∧ s.syncAll ct ((p, k) :: ps) = (s, false)) := by
  cases ct with
  | noCommit => exact absurd rfl hct
  | linkOnly =>
    by_cases h : aget s.redirect p = some k
    · exact .inl ⟨s, .skip h, if_pos h⟩
    · exact .inl ⟨_, .link rfl, if_neg h⟩
  | full =>
    by_cases h : aget s.redirect p = some k
    · exact .inl ⟨s, .skip h, if_pos h⟩
    · cases hm : aget s.metas k with
      | none => exact .inr ⟨rfl, fun e => (nomatch e.1), (if_neg h).trans (by rw [hm])⟩
      | some r =>
        cases hb : aget s.blobs k with
        | none => exact .inr ⟨rfl, fun e => (nomatch e.2), (if_neg h).trans (by rw [hm, hb])⟩
        | some b => exact .inl ⟨_, .copy b rfl hb, (if_neg h).trans (by rw [hm, hb])⟩

section
variable {ct : CommitType} {s s' : DbfsSt} {p : DPath} {k : Key} (h : DbfsSt.Step ct s p k s')
include h

theorem DbfsSt.Step.keeps : s'.blobs = s.blobs ∧ s'.metas = s.metas := by
  cases h <;> exact ⟨rfl, rfl⟩

theorem DbfsSt.Step.redirect (q : DPath) : aget s'.redirect q = if p = q then some k else aget s.redirect q := by
  cases h with
  | skip e =>
    split
    · rename_i e'
      exact e' ▸ e
    · rfl
  | link => exact aget_aset ..
  | copy => exact aget_aset ..

theorem DbfsSt.Step.data (hct : ct = .linkOnly) : s'.data = s.data := by
  cases h with
  | copy _ e => rw [hct] at e; cases e
  | _ => rfl

theorem DbfsSt.Step.inv (hct : ct = .full) (hinv : DbfsFullInv s) : DbfsFullInv s' := by
  cases h with
  | skip => exact hinv
  | link e => rw [hct] at e; cases e
  | copy b _ hb =>
    intro p' k' h'
    simp only [aget_aset] at h' ⊢
    split at h'
    · rename_i e; cases h'; exact ⟨b, hb, if_pos e⟩
    · rename_i e; rw [if_neg e]; exact hinv p' k' h'
end

theorem DbfsSt.syncAll_inv (ct : CommitType) (I : DbfsSt → Prop) (hI : ∀ s p k s', I s → DbfsSt.Step ct s p k s' → I s')
    (ps : List (DPath × Key)) (s : DbfsSt) (h : I s) : I (s.syncAll ct ps).1 := by
  induction ps generalizing s with
  | nil => exact h
  | cons pk ps ih =>
    obtain ⟨p, k⟩ := pk
    by_cases hct : ct = .noCommit
    · rw [hct, dbfs_sync_none]; exact h
    · rcases DbfsSt.syncAll_cons hct s p k ps with ⟨s', h1, e⟩ | ⟨_, _, e⟩
      · rw [e]; exact ih s' (hI s p k s' h h1)
      · rw [e]; exact h

theorem dbfs_sync_keeps (ct : CommitType) (ps : List (DPath × Key)) (s : DbfsSt) :
    (s.syncAll ct ps).1.blobs = s.blobs ∧ (s.syncAll ct ps).1.metas = s.metas :=
  DbfsSt.syncAll_inv ct (fun s' => s'.blobs = s.blobs ∧ s'.metas = s.metas)
    (fun _ _ _ _ hs h1 => ⟨h1.keeps.1.trans hs.1, h1.keeps.2.trans hs.2⟩) ps s ⟨rfl, rfl⟩

theorem dbfs_sync_link_data (ps : List (DPath × Key)) (s : DbfsSt) : (s.syncAll .linkOnly ps).1.data = s.data :=
  DbfsSt.syncAll_inv .linkOnly (fun s' => s'.data = s.data) (fun _ _ _ _ hs h1 => (h1.data rfl).trans hs) ps s rfl

theorem dbfs_sync_full_inv (ps : List (DPath × Key)) (s : DbfsSt) (hinv : DbfsFullInv s) :
    DbfsFullInv (s.syncAll .full ps).1 :=
  DbfsSt.syncAll_inv .full DbfsFullInv (fun _ _ _ _ hs h1 => h1.inv rfl hs) ps s hinv

/-- a commit that writes records and finds every blob it has to copy succeeds, and its redirection table is the
dictionary's `sync` of the old one (`aget_syncAll`) -/
theorem dbfs_sync_redirect {ct : CommitType} (hct : ct ≠ .noCommit) (ps : List (DPath × Key)) (s : DbfsSt)
    (hst : ct = .full → ∀ pk ∈ ps, (aget s.metas pk.2).isSome ∧ (aget s.blobs pk.2).isSome) :
    (s.syncAll ct ps).2 = true ∧
    ∀ q, aget (s.syncAll ct ps).1.redirect q = (lastKey ps q).orElse (fun _ => aget s.redirect q) := by
  induction ps generalizing s with
  | nil => exact ⟨rfl, fun _ => rfl⟩
  | cons pk ps ih =>
    obtain ⟨p, k⟩ := pk
    rcases DbfsSt.syncAll_cons hct s p k ps with ⟨s', h1, e⟩ | ⟨hf, hno, _⟩
    · obtain ⟨ok, hr⟩ := ih s'
        (fun e pk hpk => by rw [h1.keeps.1, h1.keeps.2]; exact hst e pk (mem_cons_of_mem _ hpk))
      rw [e]
      exact ⟨ok, fun q => by rw [hr q, lastKey_cons, h1.redirect]⟩
    · exact absurd (hst hf (p, k) mem_cons_self) hno

end Dds
