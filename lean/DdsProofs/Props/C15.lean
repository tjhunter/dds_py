import DdsProofs.EvalStep
import DdsProofs.Props.C03
import Generated.Facts
/-!
# C15 — restricting the stages makes an evaluation a side-effect-free dry run

For **every** world, store state and request:
* `analysis_only`: without the `eval` stage nothing runs, nothing is stored, nothing is committed;
* `no_commit`: without the `path_commit` stage every path is left as it was;
* `sigs_stage_independent`: the signatures computed do not depend on the stage list (nor on the debugging
  and graph-export flags);
* `parse_prefix`: a list of `n` names that `_parse_stages` accepts (in any case) is mapped to the first `n` stages of the
  stage order (names beyond the last stage are not looked at: the `zip` of the code); `stage_table` ties the stage order to
  the enum found in the code on this run (Tie B).
-/
namespace Dds.C15
open Dds

theorem analysis_only (m : Nat) (W : World) (S : PStore) (rq : Request) (h : Stage.eval ∉ rq.stages) :
    (evalStep m W S rq).log = [] ∧ (evalStep m W S rq).store = S ∧
    ((evalStep m W S rq).value = .ok none ∨ ∃ e, (evalStep m W S rq).value = .error (.dds e)) := by
  cases ha : analysisPhase m W S rq with
  | error e => rw [evalStep_rejected ha]; exact ⟨rfl, rfl, .inr ⟨e, rfl⟩⟩
  | ok r => obtain ⟨fn, env, fis, paths⟩ := r; rw [evalStep_restricted ha h]; exact ⟨rfl, rfl, .inl rfl⟩

theorem no_commit (m : Nat) (W : World) (S : PStore) (rq : Request) (h : Stage.pathCommit ∉ rq.stages) :
    (evalStep m W S rq).store.paths = S.paths := by
  cases ha : analysisPhase m W S rq with
  | error e => rw [evalStep_rejected ha]
  | ok r =>
    obtain ⟨fn, env, fis, paths⟩ := r
    rw [evalStep_paths ha, if_neg fun hc => h (completed_iff.mp hc).2]

theorem sigs_stage_independent (m : Nat) (W : World) (S : PStore) (rq : Request) (stages : List Stage)
    (dbg exportG : Bool) :
    analysisPhase m W S { rq with stages := stages, extraDebug := dbg, exportGraph := exportG } =
    analysisPhase m W S rq :=
  C03.flags_irrelevant m W S rq stages dbg exportG

/-- `_parse_stages` on upper-cased names: every given name must be the stage at its position -/
def parseStages : List String → List String → Option (List String)
  | [], _ => some []
  | _, [] => some []
  | x :: xs, s :: ss => if x.toUpper = s then (parseStages xs ss).map (s :: ·) else none

theorem parse_prefix (xs order r : List String) (h : parseStages xs order = some r) :
    r = order.take xs.length ∧ r.length = min xs.length order.length := by
  have h1 : r = order.take xs.length := by
    induction xs generalizing order r with
    | nil => cases order <;> exact (Option.some.inj h).symm
    | cons x xs ih =>
      cases order with
      | nil => exact (Option.some.inj h).symm
      | cons s ss =>
        rw [parseStages] at h
        split at h
        · obtain ⟨r', hp, rfl⟩ := Option.map_eq_some_iff.mp h
          rw [ih ss r' hp]; rfl
        · cases h
  exact ⟨h1, by rw [h1, List.length_take]⟩

theorem stage_table : Facts.stageOrder = ["ANALYSIS", "STORE_INSPECT", "EVAL", "STORE_COMMIT", "PATH_COMMIT"] ∧
    Facts.stageValues = ["analysis", "store_inspect", "eval", "store_commit", "path_commit"] := ⟨rfl, rfl⟩

/-- non-vacuity: the documented dry run -/
example : parseStages ["analysis"] Facts.stageOrder = some ["ANALYSIS"] := by decide +kernel

end Dds.C15
