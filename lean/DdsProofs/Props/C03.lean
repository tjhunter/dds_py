import DdsModel.Eval
import Generated.Facts
import DdsProofs.SigInj
import DdsProofs.AnalyseInv
/-!
# C03 — signatures depend only on program content, never on the environment

What the model can carry (hash seed, working directory and on-disk location have no counterpart in it:
for those the claim rests on the byte-exact correspondence, DESIGN §5 C03):
* `flags_irrelevant`: the stage list, `extra_debug` and graph export do not enter the analysis;
* `store_irrelevant`: the store enters the analysis only through the committed keys of the paths the
  evaluation loads without producing them — when there is none, any two stores (of any kind, in any
  state) give the same signatures;
* `history_irrelevant`: the analysis is a function of the world, the request and the committed path table (of those
  committed keys only: `analysisPhase_congr`); no other state survives from earlier evaluations in the process (the
  model has no such state: since the `fix:` commit that removed the process-wide lookup, neither has the code — the
  correspondence runs every program after earlier evaluations and redefinitions in the same process);
* `sig_keys_table`: the vocabulary of signature keys is re-read from the source of `dds/introspect.py` on every run
  (every `HK(...)` expression, into Generated/Facts.lean): it is exactly the vocabulary of the model, whose six classes
  of `_build_return_sig` have pairwise different categories (`sig_key_classes`) — what `buildReturnSig_inj` (signature
  composition is injective) rests on. A new kind of key in the code makes this table, hence the build, fail.
-/
namespace Dds.C03
open Dds

theorem flags_irrelevant (m : Nat) (W : World) (S : PStore) (rq : Request) (stages : List Stage) (dbg g : Bool) :
    analysisPhase m W S { rq with stages := stages, extraDebug := dbg, exportGraph := g } = analysisPhase m W S rq := rfl

theorem fetchPaths_nil (S : PStore) : fetchPaths S [] = .ok [] := rfl

theorem store_irrelevant (m : Nat) (W : World) (S S' : PStore) (rq : Request)
    (hnoload : ∀ fn, W.find rq.fn = some fn → ∀ ind done, indirectFn W W.fuel [] ({}, []) fn = .ok (ind, done) → loadsToCheck ind = []) :
    analysisPhase m W S rq = analysisPhase m W S' rq :=
  analysisPhase_congr m W S S' rq fun fn ind done hf hi => by rw [hnoload fn hf ind done hi]; rfl

theorem history_irrelevant (m : Nat) (W : World) (S S' : PStore) (rq : Request) (h : S.paths = S'.paths) :
    analysisPhase m W S rq = analysisPhase m W S' rq :=
  analysisPhase_congr m W S S' rq fun _ _ _ _ _ => fetchPaths_congr fun _ _ => by rw [h]

theorem sig_keys_table : Facts.sigKeys =
    ["arg_*", "arg_context", "body_sig", "dep_*", "ext_dep_*", "ext_variable_*", "fun_dep_*", "function_input_hash",
     "function_inter_hash"] := rfl

theorem sig_key_classes (n : String) :
    keyCat "body_sig" = 0 ∧ keyCat "arg_context" = 1 ∧ keyCat ("arg_" ++ n) = 1 ∧ keyCat ("dep_" ++ n) = 2 ∧
    keyCat ("fun_dep_" ++ n) = 3 ∧ keyCat ("ext_dep_" ++ n) = 4 ∧ keyCat ("ext_variable_" ++ n) = 5 :=
  ⟨keyCat_body, keyCat_argctx, keyCat_arg n, keyCat_dep n, keyCat_fun n, keyCat_extdep n, keyCat_extvar n⟩

end Dds.C03
