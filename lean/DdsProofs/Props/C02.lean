import DdsModel.Eval
import DdsProofs.Cone
import DdsProofs.Closure
/-!
# C02 — nothing is recomputed unless something it depends on changed

Stage 1: the analysis reads the store **only** at the path table entries of the paths the evaluation loads
without producing them (`analysis_reads_loaded_paths_only`), and storing a blob leaves the table alone (`storeBlob_paths`):
every step that leaves those entries and the analysed code alone fixes the same signatures. A kept call whose key has a
blob runs no body (`hit_runs_nothing`).

Stage 2 (over the whole model, loads included):
* `outside_cone_invisible` — if two versions of the code agree on every function the evaluated function can reach (a set of
  names closed under call / reference / keep: the functions of the cone of DESIGN §4.1) and on the non-accepted code, and
  have equally many definitions, an evaluation has the *same outcome* in both: same value, same executed bodies (so nothing
  is recomputed because of an edit outside the cone), same signatures, same store. `outside_cone_invisible'`: the second
  version may have any number of further definitions, provided the evaluation in the first does not end in the model's own
  fuel error (`Cone.lean`: the recursion bound of the model grows with the number of definitions, and more fuel changes
  no other result).
* `reeval_runs_nothing` — after a successful evaluation of a kept function on a real store, every evaluation whose
  analysis gives the root the same signature (identical re-evaluation, another process, a revert back to this version,
  the same code elsewhere) executes no body at all and returns the stored value.
* `reeval_recomputes_nothing` (over a `Universe`, closed real store: `closed_along_history`) — also when the root is *not*
  kept (`dds.eval` of a plain function): after a successful evaluation, an evaluation — of any version, any request —
  whose root gets the same signature and is kept at the same path or not kept either (`hsp`) writes no blob: no kept
  function is recomputed. It rests on `Closure.lean`: the blob set is closed under kept sub-calls (`Closed`, preserved by
  every evaluation), the signature determines the shape of the interaction tree (`sig_shape`), a successful run covers its
  tree (`cov_fn`), a covered tree runs without writing (`hit_fn`).
-/
namespace Dds.C02
open Dds

/-- the paths in question are `loadsToCheck` of the indirect pre-pass, which does not look at the store -/
theorem analysis_reads_loaded_paths_only (m : Nat) (W : World) (S S' : PStore) (rq : Request)
    (h : ∀ fn ind, W.find rq.fn = some fn → indirectFn W W.fuel [] ({}, []) fn = .ok ind →
      ∀ p ∈ loadsToCheck ind.1, aget S.paths p = aget S'.paths p) :
    analysisPhase m W S rq = analysisPhase m W S' rq :=
  analysisPhase_congr m W S S' rq fun fn ind done hf hi => fetchPaths_congr (h fn (ind, done) hf hi)

theorem analysis_reads_paths_only (m : Nat) (W : World) (S S' : PStore) (rq : Request)
    (h : S.paths = S'.paths) : analysisPhase m W S rq = analysisPhase m W S' rq :=
  analysis_reads_loaded_paths_only m W S S' rq fun _ _ _ _ _ _ => by rw [h]

theorem hit_runs_nothing (requested : List (String × Sg)) (rec : RunRec) (st : XSt) (path : String) (g : Fn)
    (env : Env) (key : Sg) (v : RVal) (hk : aget requested path = some key)
    (hb : sgGet st.store.blobs key = some v) :
    keepExec requested rec st path g env = (.ok v, st) :=
  keepExec_hit hk hb

/-- so a failed or restricted run cannot shift signatures -/
theorem storeBlob_paths (S : PStore) (k : Sg) (v : RVal) : (S.storeBlob k v).paths = S.paths :=
  storeBlob_paths' S k v

theorem outside_cone_invisible {m : Nat} {W1 W2 : World} {cone : List String} (hag : AgreeOn W1 W2 cone)
    (hcl : ConeClosed W1 cone) (hfuel : W1.fuel = W2.fuel) (hx : W1.extVersion = W2.extVersion)
    (S : PStore) (rq : Request) (hrq : rq.fn ∈ cone) :
    evalStep m W1 S rq = evalStep m W2 S rq :=
  (evalStep_le (Cone.of_list hag hcl hx) (Nat.le_of_eq hfuel) S rq hrq (Or.inl hfuel)).symm

theorem outside_cone_invisible' {m : Nat} {W1 W2 : World} {cone : List String} (hag : AgreeOn W1 W2 cone)
    (hcl : ConeClosed W1 cone) (hx : W1.extVersion = W2.extVersion) (hle : W1.funs.length ≤ W2.funs.length)
    (S : PStore) (rq : Request) (hrq : rq.fn ∈ cone)
    (hv : (evalStep m W1 S rq).value ≠ .error (.dds .outOfFuel)) :
    evalStep m W1 S rq = evalStep m W2 S rq :=
  evalStep_congr_le hag hcl hx hle S rq hrq hv

theorem reeval_runs_nothing {m : Nat} {W : World} {S : PStore} {rq : Request} {fn : Fn} {env : Env} {fis : FIS}
    {paths : List (String × Sg)} (ha : analysisPhase m W S rq = .ok (fn, env, fis, paths)) (hs : Stage.eval ∈ rq.stages)
    (hn : S.noop = false) {p : String} (hp : fis.storePath = some p) {v : RVal}
    (hv : (evalStep m W S rq).value = .ok (some v))
    {W' : World} {rq' : Request} {fn' : Fn} {env' : Env} {fis' : FIS} {paths' : List (String × Sg)}
    (ha' : analysisPhase m W' (evalStep m W S rq).store rq' = .ok (fn', env', fis', paths'))
    (hs' : Stage.eval ∈ rq'.stages) (hsig : fis'.retSig = fis.retSig) :
    (evalStep m W' (evalStep m W S rq).store rq').log = [] ∧
    (evalStep m W' (evalStep m W S rq).store rq').value = .ok (some v) := by
  have hb := root_blob_stored ha hs hn hp hv
  rw [← hsig] at hb
  generalize (evalStep m W S rq).store = S' at ha' hb ⊢
  rw [evalStep_ran ha' hs', rootRun_hit ha' hb]; exact ⟨rfl, rfl⟩

theorem reeval_recomputes_nothing (U : Universe) (m : Nat) (W W' : World) (S : PStore) (rq rq' : Request)
    (hW : U.world W) (hW' : U.world W') (hC : Closed U m S) (hn : S.noop = false)
    {fn : Fn} {env : Env} {fis1 : FIS} {paths : List (String × Sg)}
    (ha : analysisPhase m W S rq = .ok (fn, env, fis1, paths)) (hs : Stage.eval ∈ rq.stages)
    {v : RVal} (hv : (evalStep m W S rq).value = .ok (some v))
    {fn' : Fn} {env' : Env} {fis2 : FIS} {paths' : List (String × Sg)}
    (ha' : analysisPhase m W' (evalStep m W S rq).store rq' = .ok (fn', env', fis2, paths'))
    (hsig : fis2.retSig = fis1.retSig) (hsp : fis2.storePath = fis1.storePath) :
    (evalStep m W' (evalStep m W S rq).store rq').store.blobs = (evalStep m W S rq).store.blobs := by
  obtain ⟨c1, c2⟩ := (covered_iff _ _).mp (evalStep_covered U m W S rq hW hC hn ha hs hv)
  obtain ⟨named, refs0, fa, r, P⟩ := analysisPhase_inv ha
  obtain ⟨named', refs0', fb, r', P'⟩ := analysisPhase_inv ha'
  -- the second tree is covered: its root by `hsp` and `hsig`, the calls below because the signature fixes them
  refine covered_eval_writes_nothing U m W' _ rq' hW' ha' ((covered_iff _ _).mpr ⟨?_, ?_⟩)
  · rw [hsp, hsig]
    exact c1
  · rw [P'.subs]
    rw [P.subs] at c2
    exact c2.of_sig hW hW' (U.find hW P.hfind) (U.find hW' P'.hfind) P.hana P'.hana (by rw [← P.retSig, ← P'.retSig, hsig])

theorem closed_along_history (U : Universe) (m : Nat) (hist : List HStep) (hok : ∀ s ∈ hist, U.world s.world) :
    Closed U m (runHistory m {} hist) ∧ (runHistory m {} hist).noop = false :=
  closed_history U m hist {} (closed_empty U m false) rfl hok

end Dds.C02
