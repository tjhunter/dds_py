import DdsModel.Eval
import DdsProofs.SigInj
import DdsProofs.History
/-!
# C09 — dds.load always sees the latest kept value and invalidates its readers

Stage 1, for every world, store and request:
* `order_rejected`: when the load-order check finds a path loaded before the call that produces it has
  returned, the evaluation returns that DDS error, runs nothing and leaves the store as it was;
* `load_uses_own_key`: inside an evaluation, a load of a path that this evaluation keeps reads the blob
  under the key fixed by this evaluation (not the previously committed one); `load_uses_committed_key`: a path the
  evaluation does not keep is resolved through the committed path table;
* `load_must_resolve`: the lookup of the paths a function loads fails when the first of them does not resolve; it goes
  through them one after the other, and a successful lookup has resolved every path (`lookupRefs_spec`: the resolved
  signatures are what enters the function's own signature as `dep_<p>`);
* `reader_sig_determines_loaded` (stage 2, by the injectivity of signature composition): two functions with the same
  signature resolved every path they load to the same producer signature.

Stage 2, over histories (`DdsProofs/History.lean`; `HState` = the store and the value plain execution has kept at every path):
* `load_sees_latest_kept` (= `C04.committed_is_kept_history`): after any history from an empty store, every committed path
  resolves to a blob that is exactly the value most recently kept at the path by plain execution of a completed evaluation —
  what a later `dds.load` reads;
* `reader_returns_plain_value` (= `history_value`, C01): an evaluation that loads paths committed by earlier evaluations —
  wherever in the call tree the loads appear — returns what plain execution returns when `load` gives the most recently kept
  value: a reader is served from the store only when that is still the right value, and re-run otherwise.
PARTIAL: the two theorems assume, as C01 does, `ExternalLoads` (no evaluation of the history loads a path that it produces
itself), `World.keepsPlain` and one version of the non-accepted code; a load of a path kept earlier *in the same evaluation*
is decided by the three-way execution of the check (and by `load_uses_own_key`), not by a theorem.
-/
namespace Dds.C09
open Dds

theorem order_rejected (m : Nat) (W : World) (S : PStore) (rq : Request) (fn : Fn)
    (named : List (String × Option Sg)) (ind : Indirect) (done : List String)
    (hf : W.find rq.fn = some fn) (hp : badEntryPath rq fn = false)
    (hn : liftA (getArgCtx m fn.params rq.args rq.kwargs) = .ok named)
    (hi : indirectFn W W.fuel [] ({}, []) fn = .ok (ind, done))
    (ho : orderFn W ind.stores W.fuel [] fn = .error .loadBeforeProduce) :
    (evalStep m W S rq).value = .error (.dds .loadBeforeProduce) ∧ (evalStep m W S rq).log = [] ∧
    (evalStep m W S rq).store = S := by
  have h : analysisPhase m W S rq = .error .loadBeforeProduce := by
    simp [analysisPhase, hf, hp, hn, hi, ho]
  rw [evalStep_rejected h]
  exact ⟨rfl, rfl, rfl⟩

theorem load_uses_own_key (W : World) (rq : List (String × Sg)) (rec : RunRec) (fn : Fn) (env : Env) (st : XSt)
    (results : List RVal) (path : String) (line : Nat) (key : Sg) (hk : aget rq path = some key) :
    runItems W (some rq) rec fn env st results [.load path line] =
      (.ok (results ++ [(sgGet st.store.blobs key).getD (.py .none)]), st) := by
  rw [runItems_step, runItemRes_load, hk]
  rfl

theorem load_uses_committed_key (W : World) (rq : List (String × Sg)) (rec : RunRec) (fn : Fn) (env : Env) (st : XSt)
    (results : List RVal) (path : String) (line : Nat) (key : Sg) (hk : aget rq path = none)
    (hc : aget st.store.paths path = some key) :
    runItems W (some rq) rec fn env st results [.load path line] =
      (.ok (results ++ [(sgGet st.store.blobs key).getD (.py .none)]), st) := by
  rw [runItems_step, runItemRes_load, hk, hc]
  rfl

theorem load_must_resolve (refs : Refs) (p : String) (ps : List String) (h : aget refs p = none) :
    lookupRefs refs (p :: ps) = .error .assertion := by
  simp [lookupRefs, h]

/-- the direction that makes readers sound: a reader's signature cannot stay the same when the signature its path resolves
to changes -/
theorem reader_sig_determines_loaded (b b' : Option Sg) (a a' : ArgCtx) (deps deps' : List (String × Sg))
    (subs subs' : List Sg) (ed ed' : List (String × String)) (ev ev' : List (String × Sg)) (pa pa' : Pairs)
    (ha : argPairs a = .ok pa) (ha' : argPairs a' = .ok pa')
    (h : buildReturnSig b a deps subs ed ev = buildReturnSig b' a' deps' subs' ed' ev') :
    ∀ p s, (p, s) ∈ deps ↔ (p, s) ∈ deps' :=
  (buildReturnSig_inj b b' a a' deps deps' subs subs' ed ed' ev ev' pa pa' ha ha' h).2.2.1

theorem load_sees_latest_kept (U : Universe) (m x : Nat) (noop : Bool) (hist : List HStep)
    (hok : histOK U m x { store := { noop := noop }, kept := [] } hist) (p : String) (k : Sg)
    (hp : aget (runHist m { store := { noop := noop }, kept := [] } hist).store.paths p = some k) :
    ∃ v, sgGet (runHist m { store := { noop := noop }, kept := [] } hist).store.blobs k = some v ∧
      aget (runHist m { store := { noop := noop }, kept := [] } hist).kept p = some v :=
  (hinv_history U m x hist _ (hinv_empty U m x noop) hok).kept p k hp

theorem reader_returns_plain_value (U : Universe) (m x : Nat) (noop : Bool) (hist : List HStep)
    (hok : histOK U m x { store := { noop := noop }, kept := [] } hist)
    (W : World) (rq : Request) (E : EvalCtx U x W) (hrq : U.request rq)
    {fn : Fn} {env : Env} {fis : FIS} {paths : List (String × Sg)}
    (ha : analysisPhase m W (runHist m { store := { noop := noop }, kept := [] } hist).store rq = .ok (fn, env, fis, paths))
    (hext : ∀ p ∈ fis.allLoads, External paths p) (hs : Stage.eval ∈ rq.stages) :
    (evalStep m W (runHist m { store := { noop := noop }, kept := [] } hist).store rq).value =
      ((plainFn W W.fuel { kept := (runHist m { store := { noop := noop }, kept := [] } hist).kept } fn env).1).map some :=
  history_value U m x noop hist hok W rq E hrq ha hext hs

end Dds.C09
