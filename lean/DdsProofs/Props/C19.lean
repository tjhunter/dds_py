import DdsProofs.Codec
import DdsProofs.Props.C17
/-!
# C19 — the DBFS store honours its commit type and keeps legacy blobs readable

For **every** store state and **every** path ↦ key map (request-level model of `DBFSStore` over the
dbutils file-system API):
* `commit_none`: with commit type `none` a commit changes nothing under the data directory;
* `commit_links_only`: with `links_only` every path's record points to its key, the data copies and the blobs
  are untouched;
* `commit_full`: with `full`, if the blobs of the committed keys exist, the commit succeeds, every path's
  record points to its key, and every recorded path has a byte-identical copy of its blob (`DbfsFullInv`);
* `failed_full_commit_keeps_inv`: `DbfsFullInv` after a `full` commit; it carries the hypothesis of `commit_full`,
  under which the commit succeeds: the statement without it, which covers a commit that stops at a missing blob, is
  `dbfs_sync_full_inv`;
* `commit_keeps_blobs`: no commit, of any type, successful or not, touches the blobs and their protocol records
  (legacy ones included);
* `committed_path_resolves`: after a `links_only` commit the record of a committed path holds the key it was last given,
  which is what `fetch_paths` reads (`load` works whenever the record exists);
* `documented_names_accepted` (Tie B): `set_store` accepts the three documented spellings, with their documented
  meaning;
* `legacy_alias_kind` (Tie B): each legacy reference `dbfs.*` is bound to the codec of the same kind.

All of this is about the commit (`DbfsSt.syncAll`) and the table it writes. The other operations of the model
(`DbfsSt.step`, `DbfsSt.resolveAll`) occur in no theorem: that the DBFS store answers like the dictionary, as C08 proves
of the local store, is not proved; `aget_syncAll` (the table after a successful commit is the dictionary's) is the one
step towards it.
-/
namespace Dds.C19
open Dds List

theorem commit_none (s : DbfsSt) (ps : List (DPath × Key)) : s.syncAll .noCommit ps = (s, true) :=
  dbfs_sync_none s ps

theorem commit_links_only (s : DbfsSt) (ps : List (DPath × Key)) :
    (s.syncAll .linkOnly ps).2 = true ∧ (s.syncAll .linkOnly ps).1.data = s.data ∧
    (s.syncAll .linkOnly ps).1.blobs = s.blobs ∧
    ∀ q, aget (s.syncAll .linkOnly ps).1.redirect q = (lastKey ps q).orElse (fun _ => aget s.redirect q) :=
  have h := dbfs_sync_redirect (ct := .linkOnly) nofun ps s nofun
  ⟨h.1, dbfs_sync_link_data ps s, (dbfs_sync_keeps _ ps s).1, h.2⟩

theorem commit_full (s : DbfsSt) (ps : List (DPath × Key)) (hinv : DbfsFullInv s)
    (hst : ∀ pk ∈ ps, (aget s.metas pk.2).isSome ∧ (aget s.blobs pk.2).isSome) :
    (s.syncAll .full ps).2 = true ∧ DbfsFullInv (s.syncAll .full ps).1 ∧
    ∀ q, aget (s.syncAll .full ps).1.redirect q = (lastKey ps q).orElse (fun _ => aget s.redirect q) :=
  have h := dbfs_sync_redirect (ct := .full) nofun ps s (fun _ => hst)
  ⟨h.1, dbfs_sync_full_inv ps s hinv, h.2⟩

theorem commit_keeps_blobs (ct : CommitType) : ∀ (ps : List (DPath × Key)) (s : DbfsSt),
    (s.syncAll ct ps).1.blobs = s.blobs ∧ (s.syncAll ct ps).1.metas = s.metas :=
  dbfs_sync_keeps ct

theorem failed_full_commit_keeps_inv : ∀ (ps : List (DPath × Key)) (s : DbfsSt), DbfsFullInv s →
    (∀ pk ∈ ps, (aget s.metas pk.2).isSome ∧ (aget s.blobs pk.2).isSome) → DbfsFullInv (s.syncAll .full ps).1 :=
  fun ps s hinv _ => dbfs_sync_full_inv ps s hinv

theorem committed_path_resolves (s : DbfsSt) (ps : List (DPath × Key)) (p : DPath) (k : Key)
    (h : lastKey ps p = some k) :
    aget (s.syncAll .linkOnly ps).1.redirect p = some k := by
  rw [(commit_links_only s ps).2.2.2 p, h]; rfl

theorem documented_names_accepted :
    aget Facts.commitTypeSpellings "full" = some (some "FULL") ∧
    aget Facts.commitTypeSpellings "links_only" = some (some "LINK_ONLY") ∧
    aget Facts.commitTypeSpellings "none" = some (some "NO_COMMIT") ∧
    Facts.commitTypeDefault = "FULL" := by
  simp [Facts.commitTypeSpellings, Facts.commitTypeDefault, aget]

theorem legacy_alias_kind :
    Facts.dbfsRefCodec.all (fun rc => C17.kindOfRef rc.1 == C17.kindOfClass rc.2) = true ∧
    (aget Facts.dbfsRefCodec "dbfs.string").isSome ∧ (aget Facts.dbfsRefCodec "dbfs.bytes").isSome ∧
    (aget Facts.dbfsRefCodec "dbfs.pickle").isSome := by
  simp [Facts.dbfsRefCodec, C17.kindOfRef, C17.kindOfClass, aget]

end Dds.C19
