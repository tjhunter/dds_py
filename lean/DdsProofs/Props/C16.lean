import DdsModel.Config
/-!
# C16 — every usable local-store configuration works; data dirs are independent views

* `abs_clean`: the directories a store uses are absolute and normalised whatever the spelling (relative,
  trailing separators, `.` / `..`): no empty, `.` or `..` component survives — and `abs_ignores_cwd`: an
  absolute spelling does not depend on the working directory at all; since the store keeps these absolute
  directories, no later operation depends on the working directory (the request-level model `LocalSt` of
  C08 has no working directory);
* `abs_idempotent` (from `normSegs_of_clean`: on clean segments normalisation does nothing): the directory a store
  keeps is a fixed point of the normalisation, so a store built later from the kept directory, in whatever working
  directory, uses the same one (on segments); `dotdot_at_root`: a leading `..` does not climb above the root;
* `views_share_blobs`, `view_paths_independent`: two stores on one internal directory answer presence
  checks identically after any operation on either, and an operation through one view never changes the
  other view's paths; `view_is_local`: each view by itself is a `LocalSt`, so the refinement of C08 applies to it;
* the capacity chosen by `cache_objects` is `decodeCacheObjects` (theorems `C12.decode_*`).
Symbolic links in parents of the configured directories are exercised by the check, not modelled (partial).
-/
namespace Dds.C16
open Dds List

def Clean (s : String) : Prop := s ≠ "" ∧ s ≠ "." ∧ s ≠ ".."

theorem normSegs_clean (ss acc : List String) (h : ∀ s ∈ acc, Clean s) : ∀ s ∈ normSegs acc ss, Clean s := by
  induction ss generalizing acc with
  | nil => exact fun s hs => h s (mem_reverse.mp hs)
  | cons x xs ih =>
    by_cases h1 : x = "" ∨ x = "."
    · rw [normSegs, if_pos h1]; exact ih acc h
    · by_cases h2 : x = ".."
      · rw [normSegs, if_neg h1, if_pos h2]; exact ih acc.tail fun s hs => h s (mem_of_mem_tail hs)
      · rw [normSegs, if_neg h1, if_neg h2]
        refine ih (x :: acc) fun s hs => ?_
        rcases mem_cons.mp hs with rfl | hs
        · exact ⟨fun e => h1 (.inl e), fun e => h1 (.inr e), h2⟩
        · exact h s hs

theorem abs_clean (cwd : List String) (p : String) : ∀ s ∈ absPath cwd p, Clean s := by
  unfold absPath
  split <;> exact normSegs_clean _ [] (forall_mem_nil _)

theorem normSegs_of_clean : ∀ (ss acc : List String), (∀ s ∈ ss, Clean s) → normSegs acc ss = acc.reverse ++ ss := by
  intro ss
  induction ss with
  | nil => exact fun acc _ => (append_nil _).symm
  | cons x xs ih =>
    intro acc h
    have hx := h x (mem_cons_self ..)
    have h1 : ¬ (x = "" ∨ x = ".") := fun e => e.elim hx.1 hx.2.1
    simp only [normSegs, h1, hx.2.2, if_false, ih (x :: acc) (fun s hs => h s (mem_cons_of_mem _ hs)), reverse_cons,
      append_assoc, singleton_append]

theorem abs_idempotent (cwd : List String) (p : String) (acc : List String) :
    normSegs acc (absPath cwd p) = acc.reverse ++ absPath cwd p :=
  normSegs_of_clean _ acc (abs_clean cwd p)

theorem dotdot_at_root (ss : List String) : normSegs [] (".." :: ss) = normSegs [] ss := by
  simp [normSegs]

theorem abs_ignores_cwd (c c' : List String) (p : String) (h : p.startsWith "/" = true) :
    absPath c p = absPath c' p := by
  simp [absPath, h]

theorem views_share_blobs (v : Views) (op : StoreOp) (k : Key) :
    ((v.stepA op).1.a.step (.has k)).2 = ((v.stepA op).1.b.step (.has k)).2 ∧
    ((v.stepB op).1.a.step (.has k)).2 = ((v.stepB op).1.b.step (.has k)).2 := ⟨rfl, rfl⟩

theorem view_paths_independent (v : Views) (op : StoreOp) :
    (v.stepA op).1.linksB = v.linksB ∧ (v.stepB op).1.linksA = v.linksA := ⟨rfl, rfl⟩

theorem view_is_local (v : Views) (op : StoreOp) :
    (v.stepA op).2 = (v.a.step op).2 ∧ (v.stepA op).1.a = (v.a.step op).1 ∧
    (v.stepB op).2 = (v.b.step op).2 ∧ (v.stepB op).1.b = (v.b.step op).1 := ⟨rfl, rfl, rfl, rfl⟩

/-- non-vacuity: spellings of one directory -/
example : absPath ["home", "u"] "store/internal/" = ["home", "u", "store", "internal"] ∧
    absPath ["home", "u"] "../x/./y//" = ["home", "x", "y"] ∧
    absPath ["elsewhere"] "/abs/dir" = ["abs", "dir"] := by decide +kernel

end Dds.C16
