import DdsModel.Auth
/-!
# C14 — exactly the accepted modules are tracked (the matching part)

`prefix_iff`: a canonical path is authorised **iff** one of its prefixes, written as a dotted name, is an
accepted package — for every accepted set (however few or many entries) and every nesting depth.
Corollaries: acceptance is monotone in the accepted set (`monotone`), is inherited by sub-modules (`submodule`), does not
depend on unrelated accepted packages (`unrelated_irrelevant`) nor on the order or the repetition of the `accept_module`
calls (`set_only`; `accept_twice`, `accept_order`), and a late `accept_module` authorises exactly what it names
(`late_accept_exact`). Which objects of an accepted module are tracked: `objTracking`, the table of `_is_authorized_type`
(the classification of a Python type into a kind is the harness's). Python's name resolution and the refusal of a data
function of a non-accepted module are exercised end to end on the code, not proved.
-/
namespace Dds.C14
open Dds List

theorem prefix_iff (A cp : List String) :
    isAuthorizedPath A cp = true ↔ ∃ k, k ≤ cp.length ∧ dotted (cp.take k) ∈ A := by
  simp only [isAuthorizedPath, any_eq_true, mem_range, decide_eq_true_eq, Nat.lt_succ_iff]

theorem isAuthorizedPath_append (A B cp : List String) :
    isAuthorizedPath (A ++ B) cp = (isAuthorizedPath A cp || isAuthorizedPath B cp) := by
  rw [Bool.eq_iff_iff, Bool.or_eq_true, prefix_iff, prefix_iff, prefix_iff]
  simp only [mem_append, and_or_left, exists_or]

theorem monotone (A B cp : List String) (hAB : ∀ a ∈ A, a ∈ B) (h : isAuthorizedPath A cp = true) :
    isAuthorizedPath B cp = true := by
  rw [prefix_iff] at h ⊢
  obtain ⟨k, hk, hm⟩ := h
  exact ⟨k, hk, hAB _ hm⟩

theorem submodule (A pre rest : List String) (h : dotted pre ∈ A) :
    isAuthorizedPath A (pre ++ rest) = true := by
  rw [prefix_iff]
  exact ⟨pre.length, by simp, by simpa using h⟩

theorem unrelated_irrelevant (A B cp : List String)
    (hB : ∀ k, k ≤ cp.length → dotted (cp.take k) ∉ B) :
    isAuthorizedPath (A ++ B) cp = isAuthorizedPath A cp := by
  rw [isAuthorizedPath_append, Bool.or_eq_left_iff_imp, prefix_iff]
  rintro ⟨k, hk, hm⟩
  exact absurd hm (hB k hk)

theorem set_only (A B cp : List String) (hAB : ∀ a, a ∈ A ↔ a ∈ B) :
    isAuthorizedPath A cp = isAuthorizedPath B cp := by
  rw [Bool.eq_iff_iff]
  exact ⟨monotone A B cp (fun a h => (hAB a).mp h), monotone B A cp (fun a h => (hAB a).mpr h)⟩

theorem accept_twice (A B : List String) (m : String) (cp : List String) :
    isAuthorizedPath (A ++ [m] ++ B ++ [m]) cp = isAuthorizedPath (A ++ [m] ++ B) cp :=
  -- the second `[m]` adds nothing to a list that holds `m`
  set_only _ _ cp fun _ => mem_append.trans (or_iff_left_of_imp fun h => mem_append_left _ (mem_append_right _ h))

theorem accept_order (A : List String) (m n : String) (cp : List String) :
    isAuthorizedPath (A ++ [m] ++ [n]) cp = isAuthorizedPath (A ++ [n] ++ [m]) cp :=
  set_only _ _ cp (fun a => by simp only [mem_append, mem_singleton, or_right_comm])

theorem late_accept_exact (A : List String) (m : String) (cp : List String)
    (h0 : isAuthorizedPath A cp = false) (h1 : isAuthorizedPath (A ++ [m]) cp = true) :
    ∃ k, k ≤ cp.length ∧ dotted (cp.take k) = m := by
  rw [isAuthorizedPath_append, h0, Bool.false_or, prefix_iff] at h1
  obtain ⟨k, hk, hm⟩ := h1
  exact ⟨k, hk, mem_singleton.mp hm⟩

/-! ### which objects of an accepted module are tracked -/

/-- whatever `accept_list` / `accept_dict` are set to, scalars, **tuples**, functions and modules of an accepted module stay
tracked, and every other kind keeps its treatment -/
theorem options_govern_containers_only (al ad al' ad' : Bool) (k : ObjKind) (hl : k ≠ .list) (hd : k ≠ .dict) :
    objTracking al ad k = objTracking al' ad' k := by
  cases k with
  | list => exact absurd rfl hl
  | dict => exact absurd rfl hd
  | _ => rfl

theorem tuple_always_tracked (al ad : Bool) : objTracking al ad .tuple = .tracked := rfl

/-- each option moves its own kind only, between *tracked* and *ignored* (never to a refusal) -/
theorem list_tracked_iff (al ad : Bool) : objTracking al ad .list = .tracked ↔ al = true := by
  cases al <;> simp [objTracking]
theorem dict_tracked_iff (al ad : Bool) : objTracking al ad .dict = .tracked ↔ ad = true := by
  cases ad <;> simp [objTracking]
theorem list_ignores_dict_option (al ad ad' : Bool) : objTracking al ad .list = objTracking al ad' .list := rfl
theorem dict_ignores_list_option (al al' ad : Bool) : objTracking al ad .dict = objTracking al' ad .dict := rfl

/-- the default options: both on -/
theorem default_tracking (k : ObjKind) :
    (objTracking true true k = .ignored ↔ k = .noModule ∨ k = .ofForeign) ∧
    (objTracking true true k = .refused ↔ k = .ofAccepted) := by
  cases k <;> simp [objTracking]

/-- non-vacuity: depth 4, accepted at depth 4, with the three built-in entries only (the case the
code as originally written got wrong) -/
example : isAuthorizedPath ["dds", "__main__", "__global__", "p.q.r.s"] ["p", "q", "r", "s", "f"] = true := by
  decide +kernel

end Dds.C14
