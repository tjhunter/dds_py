import DdsProofs.Paths
import DdsProofs.Acyclic
import DdsProofs.EvalStep
/-!
# C11 — ill-formed evaluations are rejected before anything runs, whatever the order

Overlapping paths. `overlap_iff`: for **every** list of well-formed kept paths, in **every** order,
`non_terminal_leaves` reports something **iff** some path of the list is a strict prefix (segment-wise) of another one
(`mem_nonTerminalLeaves`: those prefixes are what it reports). `order_irrelevant` makes the order-independence explicit,
`spelling_irrelevant` the independence of how the paths were written. (`p ≠ []`: the root path `/` — zero segments — is a
prefix of every path and is never reported, by the code as by the model: at the top level there is no `current_prefix` to
report. The harness does not generate it.)

Cycles and nested evaluations (whole model, any depth, any edge kind — call, call with arguments, reference, keep,
data function):
* `cycle_rejected`       — if some call path from the evaluated function repeats a function, the analysis fails;
* `nested_eval_rejected` — if the evaluated function, or any function on a call path from it, contains a `dds.eval`,
                           the analysis fails;
* `rejection_no_effect`  — a rejected evaluation runs no user code and leaves the store exactly as it was.
-/
namespace Dds.C11
open Dds List

theorem overlap_iff (ps : List Segs) :
    nonTerminalLeaves ps ≠ [] ↔ ∃ p ∈ ps, ∃ q ∈ ps, p ≠ [] ∧ p <+: q ∧ p ≠ q :=
  ⟨fun h => (exists_mem_of_ne_nil _ h).imp fun _ => mem_nonTerminalLeaves.mp,
    fun h => h.elim fun _ hp => ne_nil_of_mem (mem_nonTerminalLeaves.mpr hp)⟩

/-- **the verdict does not depend on how the paths were spelled**: a path is created in its one normalised spelling, which has the
segments of the path whatever repeated (`//a`) or trailing (`/a/`) separators it was written with - the prefix check, which compares
segments, sees `//a` next to `/a/b` as `/a` next to `/a/b` (before the `fix:` commit 82e4b93 it compared the empty first piece of `//a`) -/
theorem spelling_irrelevant (p : String) : pathSegs (normPath p) = pathSegs p ∧ normPath (normPath p) = normPath p :=
  ⟨pathSegs_normPath p, normPath_idem p⟩

example : normPath "//a" = "/a" ∧ normPath "/a//b/" = "/a/b" ∧ normPath "/" = "/" ∧ pathSegs "//a" = ["a"] ∧
    nonTerminalLeaves [pathSegs (normPath "//a"), pathSegs (normPath "/a/b")] ≠ [] := by
  -- with the normal forms left inside the check the kernel computes them again at every use
  rw [pathSegs_normPath, pathSegs_normPath]
  decide +kernel

theorem order_irrelevant (ps qs : List Segs) (h : ps.Perm qs) :
    nonTerminalLeaves ps ≠ [] ↔ nonTerminalLeaves qs ≠ [] := by
  simp only [overlap_iff, h.mem_iff]

/-- non-vacuity, and the witness on which the code as originally written failed (`/f, /x, /f/g`) -/
example : nonTerminalLeaves [["f"], ["x"], ["f", "g"]] = [["f"]] := by decide +kernel
example : nonTerminalLeaves [["f"], ["x"], ["g", "f"]] = [] := by decide +kernel

theorem cycle_rejected {m : Nat} {W : World} {fn : Fn} {p : List String} (hp : CallPath W fn p) (hcyc : ¬ p.Nodup)
    (fuel : Nat) (refs : Refs) (ctx : ArgCtx) (r : FIS × Refs) : analyse m W fuel refs [] fn ctx ≠ .ok r :=
  fun h => hcyc ((accepted_paths fuel h).2 p hp).1

theorem nested_eval_rejected {m : Nat} {W : World} {fn : Fn} {p : List String} (hp : CallPath W fn p)
    (hev : (∃ it ∈ fn.items, it.isEval) ∨ ∃ n ∈ p, ∃ g, W.find n = some g ∧ ∃ it ∈ g.items, it.isEval)
    (fuel : Nat) (refs : Refs) (ctx : ArgCtx) (r : FIS × Refs) : analyse m W fuel refs [] fn ctx ≠ .ok r := by
  intro h
  obtain ⟨k0, k⟩ := accepted_paths fuel h
  rcases hev with ⟨it, hit, he⟩ | ⟨n, hn, g, hg, it, hit, he⟩
  · exact k0 it hit he
  · exact (k p hp).2.2 n hn g hg it hit he

theorem rejection_no_effect (m : Nat) (W : World) (S : PStore) (rq : Request) (e : DdsErr)
    (h : analysisPhase m W S rq = .error e) :
    (evalStep m W S rq).log = [] ∧ (evalStep m W S rq).store = S ∧ (evalStep m W S rq).value = .error (.dds e) := by
  rw [evalStep_rejected h]; exact ⟨rfl, rfl, rfl⟩

/-- non-vacuity: a cycle of length two through a keep and a plain call, and its rejection computed by the model -/
def cycA : Fn where
  name := "fa"
  lines := ["def fa():", "    r0 = dds.keep('/p', fb)", ""]
  tag := "fa#0"
  params := []
  storePath := none
  vars := []
  exts := []
  items := [Item.keep "/p" "fb" [] [] [] [] 1]
  fails := none
  usesExt := false
def cycB : Fn where
  name := "fb"
  lines := ["def fb():", "    r0 = fa()", ""]
  tag := "fb#0"
  params := []
  storePath := none
  vars := []
  exts := []
  items := [Item.call "fa" 1]
  fails := none
  usesExt := false
def cycW : World := { funs := [cycA, cycB], extVersion := 0 }

example : CallPath cycW cycA ["fb", "fa", "fb"] :=
  .cons cycA (Item.keep "/p" "fb" [] [] [] [] 1) "fb" cycB _ (.head _) rfl (by rfl)
    (.cons cycB (Item.call "fa" 1) "fa" cycA _ (.head _) rfl (by rfl)
      (.cons cycA (Item.keep "/p" "fb" [] [] [] [] 1) "fb" cycB _ (.head _) rfl (by rfl) (.nil _)))

def errIs (o : Outcome) (e : DdsErr) : Bool :=
  match o.value with
  | .error (.dds e') => e' == e
  | _ => false

example : errIs (evalStep 100 cycW {} { kind := .eval, fn := "fa" }) .circularCall = true := by decide +kernel

end Dds.C11
