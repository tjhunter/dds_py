import DdsModel.Graph
import DdsModel.Eval
import DdsProofs.Structure
/-!
# C18 — graph export is faithful and does not perturb the evaluation

* `export_no_effect`: requesting the graph changes neither the result, nor the store, nor the signatures (`evalStep`
  does not read `exportGraph`, so this holds by unfolding: that the export of the code leaves the evaluation alone is seen
  by the comparison with and without export);
* `nodes_complete`: every kept path of the interaction tree is a node of the graph;
* `solid_sources_are_heads`: the solid edges into a kept call, beyond those recorded before it, are exactly its visible kept
  sub-nodes;
* `dashed_sources_are_loads`: the dashed ones, likewise, are exactly the paths it loads.
The Lean `graphOf` is the *specification* of the graph (what the property states); `_plotting._structure`
is compared with it on every generated pipeline (nodes, solid and dashed edges exactly; dotted edges only
constrained; acyclicity checked on the exported graph).

`DdsModel/Structure.lean` models `_structure` itself (`structureM`: its dictionaries threaded through the traversal; `reaches`
by rounds over the edge list where the code searches depth-first), compared **exactly** — every node, every solid, dashed and
dotted edge — with the real graph on every generated pipeline. About it:
* `reaches_decides_reachability`: the search `reaches` added by the `fix:` commit for cycles of dotted edges decides
  reachability, for every edge list (its `E.length + 1` rounds always suffice);
* `guard_is_sufficient`: adding an edge whose target does not reach its source keeps an acyclic edge list acyclic;
* `implicit_edges_keep_acyclic`: the whole loop that records the implicit (call-order) edges of one function keeps the
  recorded edges acyclic, from any state.
PARTIAL: that the solid and dashed edges recorded by `structureM` are those of `graphOf`, and that they are acyclic by
themselves, is decided by the comparison, not proved.
-/
namespace Dds.C18
open Dds List

theorem export_no_effect (m : Nat) (W : World) (S : PStore) (rq : Request) (g : Bool) :
    (evalStep m W S { rq with exportGraph := g }).value = (evalStep m W S rq).value ∧
    (evalStep m W S { rq with exportGraph := g }).store = (evalStep m W S rq).store ∧
    (evalStep m W S { rq with exportGraph := g }).requested = (evalStep m W S rq).requested := by
  have h : evalStep m W S { rq with exportGraph := g } = evalStep m W S rq := rfl
  rw [h]; exact ⟨rfl, rfl, rfl⟩

mutual
/-- the kept paths of a tree (the same list as `FIS.keptPaths` of `DdsProofs/Tree.lean`, defined here on its own) -/
def keptPaths : FIS → List String
  | .mk _ _ (some p) subs _ => p :: keptPathsL subs
  | .mk _ _ none subs _ => keptPathsL subs
def keptPathsL : List FIS → List String
  | [] => []
  | f :: fs => keptPaths f ++ keptPathsL fs
end

mutual
theorem graphAcc_nodes : ∀ (f : FIS) (g : Graph),
    (∀ n ∈ g.nodes, n ∈ (graphAcc g f).nodes) ∧ (∀ p ∈ keptPaths f, p ∈ (graphAcc g f).nodes)
  | .mk _ _ none subs _, g => graphAccL_nodes subs g
  | .mk _ _ (some v) subs loads, g => by
    obtain ⟨h1, h2⟩ := graphAccL_nodes subs g
    refine ⟨fun n hn => ?_, fun p hp => ?_⟩
    · exact mem_addAll.mpr (Or.inl (mem_addNew.mpr (Or.inl (h1 n hn))))
    · rcases mem_cons.mp hp with h | h
      · exact mem_addAll.mpr (Or.inl (mem_addNew.mpr (Or.inr h)))
      · exact mem_addAll.mpr (Or.inl (mem_addNew.mpr (Or.inl (h2 p h))))
theorem graphAccL_nodes : ∀ (fs : List FIS) (g : Graph),
    (∀ n ∈ g.nodes, n ∈ (graphAccL g fs).nodes) ∧ (∀ p ∈ keptPathsL fs, p ∈ (graphAccL g fs).nodes)
  | [], g => ⟨fun _ h => h, fun _ h => nomatch h⟩
  | f :: fs, g => by
    obtain ⟨a1, a2⟩ := graphAcc_nodes f g
    obtain ⟨b1, b2⟩ := graphAccL_nodes fs (graphAcc g f)
    refine ⟨fun n hn => b1 n (a1 n hn), fun p hp => ?_⟩
    rcases mem_append.mp hp with h | h
    · exact b1 p (a2 p h)
    · exact b2 p h
end

theorem nodes_complete (fis : FIS) : ∀ p ∈ keptPaths fis, p ∈ (graphOf fis).nodes :=
  (graphAcc_nodes fis {}).2

theorem solid_sources_are_heads (g : Graph) (n : String) (s : Sg) (v : String) (subs : List FIS) (loads : List (String × Sg))
    (u : String) :
    (u, v) ∈ (graphAcc g (.mk n s (some v) subs loads)).solid ↔
      (u, v) ∈ (graphAccL g subs).solid ∨ u ∈ headsL subs := by
  simp only [graphAcc, mem_addAll, mem_map, Prod.mk.injEq, and_true, exists_eq_right]

/-- whether or not the same path is also a solid source: since the `fix:` commit for loads of a direct dependency both
edges are shown -/
theorem dashed_sources_are_loads (g : Graph) (n : String) (s : Sg) (v : String) (subs : List FIS) (loads : List (String × Sg))
    (u : String) :
    (u, v) ∈ (graphAcc g (.mk n s (some v) subs loads)).dashed ↔
      (u, v) ∈ (graphAccL g subs).dashed ∨ u ∈ loads.map Prod.fst := by
  simp only [graphAcc, mem_addAll, mem_map, Prod.mk.injEq, and_true]

theorem reaches_decides_reachability (E : List (Sg × Sg)) (a b : Sg) : reaches E a b = true ↔ Reach E a b :=
  reaches_iff E a b

theorem guard_is_sufficient (E : List (Sg × Sg)) (a b : Sg) (hE : Acyclic E) (hne : a ≠ b) (hg : reaches E b a = false) :
    Acyclic ((a, b) :: E) :=
  guarded_insert_acyclic E a b hE hg

theorem implicit_edges_keep_acyclic (subSet : List Sg) (startNodes l1 : List GNode) (st : SSt) (h : Acyclic st.edgeKeys) :
    Acyclic (implicitEdges subSet startNodes l1 st).edgeKeys :=
  implicitEdges_acyclic subSet startNodes l1 st h

/-- non-vacuity: the three call-order edges b → c, a → b, c → a of the repaired defect: the third one is refused -/
example : reaches [(Sg.X [("b", .H [])], Sg.X [("c", .H [])]), (Sg.X [("a", .H [])], Sg.X [("b", .H [])])]
    (Sg.X [("a", .H [])]) (Sg.X [("c", .H [])]) = true := by decide +kernel

end Dds.C18
