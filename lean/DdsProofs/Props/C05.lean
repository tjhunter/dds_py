import Generated.Facts
import DdsProofs.Hash
/-!
# C05 — value hashing is total, deterministic and collision-free on supported values

* totality: `ddsHash` is a total Lean function (termination is checked by the kernel through the
  structural recursion), and its only failures are the two coded DDS errors: no definition builds `.lowLevel` (the
  `struct.error` of an int outside 32 bits before the `fix:` commit for C05), and `coded` records that;
* determinism: `ddsHash` is a function of the value and the option `hash.max_sequence_size` only;
* collision-freedom: `collide_iff` — two values get the same signature **iff** their `canonKF` agree.
  `canonKF` makes the documented identifications (list = tuple, bool = int, path/date = its text,
  `doc_*` below) **and** the structural ones the format really has (`full_false_*`): the full statement
  of the property (only the documented ones) is false on the code as it is — these are known findings.
-/
namespace Dds.C05
open Dds

/-- the only failures are coded DDS errors (never the model of `struct.error`), at every depth -/
theorem coded (m : Nat) (v : PyVal) : ddsHash m v ≠ .error .lowLevel :=
  fun h => ddsHash_err m v _ h rfl

theorem collide_iff (m : Nat) (a b : PyVal) (ha hb : Sg)
    (ea : ddsHash m a = .ok ha) (eb : ddsHash m b = .ok hb) :
    ha = hb ↔ canonKF a = canonKF b :=
  ⟨fun h => ddsHash_inj ea (h ▸ eb), fun h => by rw [ddsHash_eq_hashC m a ha ea, ddsHash_eq_hashC m b hb eb, h]⟩

/-- `_partial`: equal signatures ⇒ equal canonical forms (these are the only collisions) -/
theorem inj_partial (m : Nat) (a b : PyVal) (h : Sg)
    (ea : ddsHash m a = .ok h) (eb : ddsHash m b = .ok h) : canonKF a = canonKF b :=
  ddsHash_inj ea eb

/-- scalars of one type never collide (two ints never do, in range or not: `hashInt_inj`) -/
theorem int_inj (m : Nat) (i j : Int) (hi : inInt32 i = true) (hj : inInt32 j = true)
    (h : ddsHash m (.int i) = ddsHash m (.int j)) : i = j :=
  hashInt_inj h
theorem bigint_inj (m : Nat) (i j : Int) (hi : inInt32 i = false) (hj : inInt32 j = false)
    (h : ddsHash m (.int i) = ddsHash m (.int j)) : i = j :=
  hashInt_inj h
theorem int_bigint_ne (m : Nat) (i j : Int) (hi : inInt32 i = true) (hj : inInt32 j = false) :
    ddsHash m (.int i) ≠ ddsHash m (.int j) := fun h => by
  cases hashInt_inj h
  cases hi.symm.trans hj
theorem str_inj (m : Nat) (s t : String) (h : ddsHash m (.str s) = ddsHash m (.str t)) : s = t :=
  hStr_inj (Except.ok.inj h)
theorem float_inj (m : Nat) (x y : UInt64) (h : ddsHash m (.float x) = ddsHash m (.float y)) : x = y :=
  pack8_inj _ _ (hBytes_inj (Except.ok.inj h))

/-- documented identifications -/
theorem doc_list_tuple (m : Nat) (xs : List PyVal) : ddsHash m (.list xs) = ddsHash m (.tuple xs) := rfl
theorem doc_bool_int (m : Nat) (b : Bool) : ddsHash m (.bool b) = ddsHash m (.int (if b then 1 else 0)) := rfl
theorem doc_path_text (m : Nat) (s : String) : ddsHash m (.ppath s) = ddsHash m (.str s) := rfl
theorem doc_temporal_text (m : Nat) (s : String) : ddsHash m (.temporal s) = ddsHash m (.str s) := rfl

/-- the full statement (only the documented identifications) is false: proved witnesses, each replayed
on the real code by the check (known findings C05-KF1..4) -/
theorem full_false_empty : ddsHash 10 (.str "") = ddsHash 10 (.list []) ∧
    ddsHash 10 (.list []) = ddsHash 10 (.dict []) := by decide +kernel
theorem full_false_none : ddsHash 10 .none = ddsHash 10 (.str "__DDS_NONE__") := rfl
theorem full_false_dict : ddsHash 10 (.dict [(.str "k", .int 1)]) =
    ddsHash 10 (.list [.list [.str "k", .int 1]]) := by decide +kernel
theorem full_false_int_str : ddsHash 10 (.int 1094861636) = ddsHash 10 (.str "ABCD") := by decide +kernel

/-- non-vacuity: values that do hash, and do differ -/
example : ∃ h, ddsHash 10 (.list [.int 1, .str "a"]) = .ok h := ⟨_, rfl⟩
example : ddsHash 10 (.list [.int 1]) ≠ ddsHash 10 (.list [.int 2]) := by decide +kernel

/-- the sentinel strings of `dds_hash` are re-read from the source on every run -/
theorem sentinels_table : Facts.hashSentinels = ["__DDS_INT__", noneSentinel] := rfl

end Dds.C05
