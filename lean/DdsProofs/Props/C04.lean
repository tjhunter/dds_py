import DdsModel.Eval
import DdsProofs.Closure
import DdsProofs.History
/-!
# C04 — a committed path serves the value of the latest evaluation that kept it

Stage 1, the path table after a commit of any path ↦ key map: on a real store every committed path resolves to its key when
the paths are distinct, as in the `OrderedDict` the analysis builds (`commit_sets` = `Dds.commit_sets`); every other path
keeps what it had (`commit_frame` = `Dds.commit_frame`); the blobs are left alone (`commit_blobs` = `sync_blobs`).

Stage 2, the value clause (over a `Universe`; evaluations that do not themselves produce the paths they load, see C01):
* `committed_value`: after a successful, complete evaluation against a sound and closed real (non-noop) store, every path `p`
  the evaluation kept is committed to its signature `k`, a blob sits under `k`, and that blob is the right value of `k`
  (`Right`): the plain value of **every** call — in any version of the code — whose signature is `k`, in particular of the
  call kept at `p` in this evaluation.
* `committed_is_kept` (one more evaluation) / `committed_is_kept_history` (any history from an empty store): every committed
  path resolves to a blob that is exactly the value plain execution has kept at the path (the value `dds.load` is expected to
  return, in this process or another).
* `commit_filter_is_identity` (closed real store, no hypothesis on loads): the code's filter of the committed paths by
  `has_blob` removes nothing.
It rests on `Closure.lean`: the blob set is closed under kept sub-calls (`Closed`), a successful run covers the tree it
ran (`cov_fn`), hence every requested path has its blob (`requested_paths_stored`) — also when a parent was served from
the store and its children were not visited in this evaluation.
-/
namespace Dds.C04
open Dds List

theorem commit_sets (S : PStore) (hn : S.noop = false) (ps : List (String × Sg)) (p : String) (k : Sg)
    (hm : (p, k) ∈ ps) (hnd : (ps.map Prod.fst).Nodup) : aget (S.sync ps).paths p = some k :=
  Dds.commit_sets S hn ps p k hm hnd

theorem commit_frame (S : PStore) (ps : List (String × Sg)) (p : String) (h : ∀ pk ∈ ps, pk.1 ≠ p) :
    aget (S.sync ps).paths p = aget S.paths p :=
  Dds.commit_frame S ps p h

theorem commit_blobs (S : PStore) (ps : List (String × Sg)) : (S.sync ps).blobs = S.blobs :=
  sync_blobs S ps

theorem committed_value (U : Universe) (m x : Nat) (W : World) (S : PStore) (K : LoadEnv) (rq : Request)
    (E : EvalCtx U x W) (hrq : U.request rq) (hS : Sound U m x S) (hPK : PathsKept S K) (hC : Closed U m S) (hn : S.noop = false)
    {fn : Fn} {env : Env} {fis : FIS} {paths : List (String × Sg)}
    (ha : analysisPhase m W S rq = .ok (fn, env, fis, paths)) (hext : ∀ p ∈ fis.allLoads, External paths p)
    (hs : Stage.eval ∈ rq.stages)
    (hpc : Stage.pathCommit ∈ rq.stages) {v : RVal} (hv : (evalStep m W S rq).value = .ok (some v))
    (p : String) (k : Sg) (hp : aget paths p = some k) :
    aget (evalStep m W S rq).store.paths p = some k ∧
    ∃ w, sgGet (evalStep m W S rq).store.blobs k = some w ∧ Right U m x (evalStep m W S rq).store.blobs k w :=
  Dds.committed_value U m x W S K rq E hrq hS hPK hC hn ha hext hs hpc hv p k hp

theorem committed_is_kept (U : Universe) (m x : Nat) (h : HState) (W : World) (rq : Request)
    (E : EvalCtx U x W) (hrq : U.request rq) (hext : ExternalLoads m W h.store rq) (hI : HInv U m x h)
    (p : String) (k : Sg) (hp : aget (histStep m h W rq).store.paths p = some k) :
    ∃ v, sgGet (histStep m h W rq).store.blobs k = some v ∧ aget (histStep m h W rq).kept p = some v :=
  (hinv_step U m x h W rq E hrq hext hI).kept p k hp

theorem committed_is_kept_history (U : Universe) (m x : Nat) (noop : Bool) (hist : List HStep)
    (hok : histOK U m x { store := { noop := noop }, kept := [] } hist) (p : String) (k : Sg)
    (hp : aget (runHist m { store := { noop := noop }, kept := [] } hist).store.paths p = some k) :
    ∃ v, sgGet (runHist m { store := { noop := noop }, kept := [] } hist).store.blobs k = some v ∧
      aget (runHist m { store := { noop := noop }, kept := [] } hist).kept p = some v :=
  (hinv_history U m x hist _ (hinv_empty U m x noop) hok).kept p k hp

/-- **every path a completed evaluation commits has its result in the store** (closed real store). The code commits only the
paths whose blob is there (since the `fix:` commit for keeps that are not reached: a branch not taken, a loop that does not
run); on the programs of the model, where every keep found by the analysis is reached, that filter removes nothing: the
model's unfiltered `sync` is what the code does -/
theorem commit_filter_is_identity (U : Universe) (m : Nat) (W : World) (S : PStore) (rq : Request)
    (hW : U.world W) (hC : Closed U m S) (hn : S.noop = false)
    {fn : Fn} {env : Env} {fis : FIS} {paths : List (String × Sg)}
    (ha : analysisPhase m W S rq = .ok (fn, env, fis, paths)) (hs : Stage.eval ∈ rq.stages)
    {v : RVal} (hv : (evalStep m W S rq).value = .ok (some v)) :
    paths.filter (fun pk => (evalStep m W S rq).store.hasBlob pk.2) = paths := by
  obtain ⟨_, _, _, _, P⟩ := analysisPhase_inv ha
  apply List.filter_eq_self.mpr
  intro pk hpk
  obtain ⟨p, k⟩ := pk
  exact requested_paths_stored U m W S rq hW hC hn ha hs hv p k (aget_of_mem_nodup hpk (pathMap_nodup P.hpaths))

end Dds.C04
