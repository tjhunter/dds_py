import DdsProofs.EvalStep
import DdsProofs.Memo
import DdsProofs.History
/-!
# C10 — a failing user function is never cached and leaves dds and the store clean

For **every** world, store state and request:
* `failure_commits_nothing`: whenever an evaluation ends with an error — a DDS error or a user exception
  raised at any depth — the path table of the store is exactly what it was;
* `failure_propagates`: the error that comes out is the one the user function raised (same kind, same token);
* `failing_call_not_stored`: a kept call whose function fails stores nothing under its key, and the failure
  is passed on unchanged to the functions waiting for it;
* `failure_is_plain` (from `history_value`, under the hypotheses of C01: a `Universe`, after any history of evaluations that
  do not produce the paths they load, `World.keepsPlain`, one version of the non-accepted code): the exception that comes out of
  an evaluation is exactly the exception plain execution of the current code raises — a failure is never replaced by a stored
  result and a stored result never by a failure.
-/
namespace Dds.C10
open Dds

theorem failure_commits_nothing (m : Nat) (W : World) (S : PStore) (rq : Request) (e : XErr)
    (h : (evalStep m W S rq).value = .error e) : (evalStep m W S rq).store.paths = S.paths := by
  cases ha : analysisPhase m W S rq with
  | error e' => rw [evalStep_rejected ha]
  | ok r =>
    -- an evaluation that raised has not completed: nothing is committed, and the run itself never writes the path table
    rw [evalStep_paths ha, completed, h]
    rfl

theorem failure_propagates (m : Nat) (W : World) (S : PStore) (rq : Request)
    (fn : Fn) (env : Env) (fis : FIS) (paths : List (String × Sg)) (e : XErr) (st : XSt)
    (ha : analysisPhase m W S rq = .ok (fn, env, fis, paths)) (hs : Stage.eval ∈ rq.stages)
    (hb : sgGet S.blobs fis.retSig = none)
    (hr : runFn W paths W.fuel { store := S } fn env = (.error e, st)) :
    (evalStep m W S rq).value = .error e ∧ (evalStep m W S rq).store = st.store := by
  rw [evalStep_ran ha hs, rootRun_miss ha hb, hr]
  exact ⟨rfl, rfl⟩

theorem failing_call_not_stored (requested : List (String × Sg)) (rec : RunRec) (st st' : XSt) (path : String)
    (g : Fn) (env : Env) (key : Sg) (e : XErr) (hk : aget requested path = some key)
    (hn : sgGet st.store.blobs key = none) (hr : rec st g env = (.error e, st')) :
    keepExec requested rec st path g env = (.error e, st') := by
  rw [keepExec_miss hk hn, hr]
  rfl

theorem failure_is_plain (U : Universe) (m x : Nat) (noop : Bool) (hist : List HStep)
    (hok : histOK U m x { store := { noop := noop }, kept := [] } hist)
    (W : World) (rq : Request) (E : EvalCtx U x W) (hrq : U.request rq)
    {fn : Fn} {env : Env} {fis : FIS} {paths : List (String × Sg)}
    (ha : analysisPhase m W (runHist m { store := { noop := noop }, kept := [] } hist).store rq = .ok (fn, env, fis, paths))
    (hext : ∀ p ∈ fis.allLoads, External paths p) (hs : Stage.eval ∈ rq.stages) (e : XErr) :
    (evalStep m W (runHist m { store := { noop := noop }, kept := [] } hist).store rq).value = .error e ↔
      (plainFn W W.fuel { kept := (runHist m { store := { noop := noop }, kept := [] } hist).kept } fn env).1 = .error e := by
  rw [history_value U m x noop hist hok W rq E hrq ha hext hs]
  generalize (plainFn W W.fuel _ fn env).1 = r
  cases r with
  | ok v => simp only [Except.map, reduceCtorEq]
  | error e' => simp only [Except.map, Except.error.injEq]

end Dds.C10
