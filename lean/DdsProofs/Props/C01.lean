import DdsModel.Eval
import DdsProofs.Args
import DdsProofs.Memo
import DdsProofs.History
import DdsProofs.MemoExample
import DdsProofs.Scope
import DdsProofs.Order
import DdsProofs.Imports
import DdsProofs.Props.C11
/-!
# C01 — memoised evaluation returns exactly what plain execution would return

For the model's pipelines (items `call`, `callArgs`, `ref`, `keep`, `load`; literal, default, keyword and run-time arguments;
data functions; any nesting depth; any number of versions of the code), over a `Universe` of function versions (`SigSound.lean`:
the text determines the program; `dds_hash` is injective on the values that occur — C05 says exactly where it is not; distinct,
plain parameters; items in line order). The state of a history (`HState`) is the store together with the value plain execution
has kept at every path.

* `sig_sound` — two calls made inside evaluations of any two versions, with the same return signature, run from plain states
  that hold, at every path the calls load, the blob (in one blob map `Ω`) of the signature the path resolved to, have the same
  plain result (value or exception);
* `memo_correct` — one evaluation against a sound store whose committed paths hold what plain execution has kept (`K`) leaves
  a sound store and loses no blob; under the eval stage it returns the plain value / raises the plain exception, from `K`;
* `history_invariant`, `history_correct` — after any history (older versions, other values, restricted stages, failures) from
  an empty store, real or noop, the invariant `HInv` holds, and an evaluation returns what plain execution of the current
  version returns from the values kept so far (`runHist` runs a history on an `HState`; the store it leaves is `runHistory`,
  the history of the store alone that C02 speaks of: `runHist_store`);
* `history_correct_loadfree` — the same for versions that never call `dds.load`, with no hypothesis on loads;
* `served_only_on_hit`, `rejected_runs_nothing` (= `C11.rejection_no_effect`), `root_hit_runs_nothing` — a kept call returns a
  stored blob only if one sits under exactly the key the analysis fixed for its path, and otherwise runs the function and stores
  the result under that key; an evaluation whose analysis fails executes nothing and leaves the store as it was; if the root's
  signature has a blob, no user code runs.

Non-vacuity: `DdsProofs/MemoExample.lean` (two versions and a reader that loads, all hypotheses proved, the history computed
by the kernel).

PARTIAL — beyond the `Universe`, `memo_correct`, `history_invariant` and `history_correct` assume that every evaluation loads
only paths it does not itself produce (`ExternalLoads`: they resolve through the store, to what earlier evaluations committed);
these three and `history_correct_loadfree` assume that an explicit `keep` is not applied to a data function
(`World.keepsPlain`); these four and `sig_sound`, that the non-accepted code, which dds does not track, is the same in every
version (one `extVersion`: `hext`, `EvalCtx.hx`).
A load of a path produced earlier *in the same evaluation* is in the model and in the three-way execution of the check, not
in these theorems; classes / lambdas are outside the model.
-/
namespace Dds.C01
open Dds

theorem served_only_on_hit (requested : List (String × Sg)) (rec : RunRec) (st : XSt) (path : String) (g : Fn)
    (env : Env) (key : Sg) (hk : aget requested path = some key) :
    (∀ v, sgGet st.store.blobs key = some v → keepExec requested rec st path g env = (.ok v, st)) ∧
    (sgGet st.store.blobs key = none → ∀ v st', rec st g env = (.ok v, st') →
      keepExec requested rec st path g env = (.ok v, { st' with store := st'.store.storeBlob key v })) ∧
    (sgGet st.store.blobs key = none → ∀ e st', rec st g env = (.error e, st') →
      keepExec requested rec st path g env = (.error e, st')) := by
  refine ⟨fun v hv => keepExec_hit hk hv, fun hn v st' hr => ?_, fun hn e st' hr => ?_⟩
  · rw [keepExec_miss hk hn, hr]
    rfl
  · rw [keepExec_miss hk hn, hr]
    rfl

theorem rejected_runs_nothing (m : Nat) (W : World) (S : PStore) (rq : Request) (e : DdsErr)
    (h : analysisPhase m W S rq = .error e) :
    (evalStep m W S rq).log = [] ∧ (evalStep m W S rq).store = S ∧
    (evalStep m W S rq).value = .error (.dds e) :=
  C11.rejection_no_effect m W S rq e h

theorem root_hit_runs_nothing (m : Nat) (W : World) (S : PStore) (rq : Request)
    (fn : Fn) (env : Env) (fis : FIS) (paths : List (String × Sg)) (v : RVal)
    (h : analysisPhase m W S rq = .ok (fn, env, fis, paths)) (hs : Stage.eval ∈ rq.stages)
    (hb : sgGet S.blobs fis.retSig = some v) :
    (evalStep m W S rq).log = [] ∧ (evalStep m W S rq).value = .ok (some v) := by
  rw [evalStep_ran h hs, rootRun_hit h hb]
  exact ⟨rfl, rfl⟩

theorem sig_sound (U : Universe) (m : Nat) {Ω : Blobs} {W1 W2 : World} {fn1 fn2 : Fn} {ctx1 ctx2 : ArgCtx} {env1 env2 : Env}
    (c1 : Chain U m Ω W1 fn1 ctx1 env1) (c2 : Chain U m Ω W2 fn2 ctx2 env2)
    (hW1 : U.world W1) (hW2 : U.world W2) (hext : W1.extVersion = W2.extVersion) (hU1 : U.fns fn1) (hU2 : U.fns fn2)
    {fuel1 fuel2 : Nat} {refs1 refs2 : Refs} {stack1 stack2 : List String} {fis1 fis2 : FIS} {r1 r2 : Refs}
    (h1 : analyse m W1 fuel1 refs1 stack1 fn1 ctx1 = .ok (fis1, r1))
    (h2 : analyse m W2 fuel2 refs2 stack2 fn2 ctx2 = .ok (fis2, r2))
    (hs : fis1.retSig = fis2.retSig) (p1 p2 : PSt)
    (hl1 : FIS.loadsOK Ω p1.kept fis1) (hl2 : FIS.loadsOK Ω p2.kept fis2) :
    (plainFn W1 fuel1 p1 fn1 env1).1 = (plainFn W2 fuel2 p2 fn2 env2).1 :=
  sig_sound_full U m c1 c2 hW1 hW2 hext hU1 hU2 h1 h2 hs p1 p2 hl1 hl2

theorem memo_correct (U : Universe) (m x : Nat) (W : World) (S : PStore) (K : LoadEnv) (rq : Request)
    (E : EvalCtx U x W) (hrq : U.request rq) (hS : Sound U m x S) (hPK : PathsKept S K)
    {fn : Fn} {env : Env} {fis' : FIS} {paths : List (String × Sg)}
    (ha : analysisPhase m W S rq = .ok (fn, env, fis', paths)) (hext : ∀ p ∈ fis'.allLoads, External paths p) :
    Sound U m x (evalStep m W S rq).store ∧ Extends S (evalStep m W S rq).store ∧
    (Stage.eval ∈ rq.stages →
      (evalStep m W S rq).value = ((plainFn W W.fuel { kept := K } fn env).1).map some) :=
  let h := Dds.memo_correct U m x W S K rq E hrq hS hPK ha hext
  ⟨h.1, h.2.1, h.2.2.1⟩

/-- the invariant of a history (sound store; closed, or noop without committed paths; every committed path resolves to
the blob plain execution has kept at the path) holds after every history from an empty store -/
theorem history_invariant (U : Universe) (m x : Nat) (noop : Bool) (hist : List HStep)
    (hok : histOK U m x { store := { noop := noop }, kept := [] } hist) :
    HInv U m x (runHist m { store := { noop := noop }, kept := [] } hist) :=
  hinv_history U m x hist _ (hinv_empty U m x noop) hok

theorem history_correct (U : Universe) (m x : Nat) (noop : Bool) (hist : List HStep)
    (hok : histOK U m x { store := { noop := noop }, kept := [] } hist)
    (W : World) (rq : Request) (E : EvalCtx U x W) (hrq : U.request rq)
    {fn : Fn} {env : Env} {fis : FIS} {paths : List (String × Sg)}
    (ha : analysisPhase m W (runHist m { store := { noop := noop }, kept := [] } hist).store rq = .ok (fn, env, fis, paths))
    (hext : ∀ p ∈ fis.allLoads, External paths p) (hs : Stage.eval ∈ rq.stages) :
    (evalStep m W (runHist m { store := { noop := noop }, kept := [] } hist).store rq).value =
      ((plainFn W W.fuel { kept := (runHist m { store := { noop := noop }, kept := [] } hist).kept } fn env).1).map some :=
  history_value U m x noop hist hok W rq E hrq ha hext hs

theorem history_correct_loadfree (U : Universe) (m x : Nat) (noop : Bool) (hist : List HStep)
    (hok : ∀ s ∈ hist, s.ok U x ∧ s.world.loadFree)
    (W : World) (rq : Request) (E : EvalCtx U x W) (hlf : W.loadFree) (hrq : U.request rq)
    {fn : Fn} {env : Env} {fis : FIS} {paths : List (String × Sg)}
    (ha : analysisPhase m W (runHist m { store := { noop := noop }, kept := [] } hist).store rq = .ok (fn, env, fis, paths))
    (hs : Stage.eval ∈ rq.stages) :
    (evalStep m W (runHist m { store := { noop := noop }, kept := [] } hist).store rq).value =
      ((plainFn W W.fuel { kept := (runHist m { store := { noop := noop }, kept := [] } hist).kept } fn env).1).map some :=
  history_value U m x noop hist (histOK_of_loadFree U m x hist _ hok) W rq E hrq ha
    (externalLoads_of_loadFree hlf _ rq fn env fis paths ha) hs

/-! ## Discovery of the module names of a function body (outside the pipeline model: real Python scoping)

The pipeline model takes the tracked variables and the callees of a function as given (`Fn.vars`, the items). Which names
of a body are module names at all is decided by the code from one set of local names (`DdsModel/Scope.lean`, the fragment
of Python with lambdas, comprehensions, assignment expressions, nested functions, `global` / `nonlocal`). -/

/-- **every module name the function reads is looked up, and nothing else**: the names the analysis looks up in the
module are, occurrence by occurrence, the names that Python's chain of scopes resolves to the module -/
theorem names_looked_up_are_module_reads (params : List String) (body : Scope.Stmt) :
    Scope.ddsNames params body = Scope.pyGlobalReads params body :=
  Scope.dds_names_eq params body

/-- the single set of local names the code keeps while it walks nested scopes decides what Python's chain of scopes decides -/
theorem one_set_of_locals_suffices (chain : List Scope.Sc) (x : String) :
    x ∈ Scope.flat chain ↔ Scope.isGlobal chain x = false :=
  Scope.mem_flat x chain

/-- the computation before the `fix:` commit (every name stored anywhere in the function is local everywhere) missed module
names: a module variable also used as the variable of a comprehension, or assigned in a nested function -/
theorem brute_force_locals_miss_module_names :
    ("X" ∈ Scope.pyGlobalReads [] Scope.shadowComp ∧ "X" ∉ Scope.oldNames [] Scope.shadowComp) ∧
    ("Z" ∈ Scope.pyGlobalReads [] Scope.shadowNested ∧ "Z" ∉ Scope.oldNames [] Scope.shadowNested) :=
  ⟨Scope.old_misses_comprehension, Scope.old_misses_nested⟩

/-! ## Names bound by import statements inside a function body (`DdsModel/Imports.lean`) -/

/-- **what a function reaches through the imports of its body is looked up, as Python resolves it**: the objects (full paths)
and the module names the analysis looks up are, occurrence by occurrence, those that Python's scoping rules give - for every
body whose imports are from accepted packages (`impsOK`: the other imports do not take part in the analysis). Imports bind in
their whole scope, are hidden by the nested scopes that bind the name, are not seen outside, and the object they denote is
looked up by its full name, which no name of the function can hide. -/
theorem imported_names_resolved_as_python_does (acc : Imports.Path → Bool) (params : List String)
    (body : Imports.Stmt) (hb : Imports.stmtOK acc body = true)
    (hi : Imports.impsOK acc (Imports.impsS body) = true) :
    Imports.ddsRefs acc params body = Imports.pyRefs params body :=
  Imports.dds_refs_eq acc params body hb hi

/-- a scope that binds one name to two objects, one of them accepted, is refused: the analysis cannot tell which one is used -/
theorem name_with_two_import_bindings_refused (acc : Imports.Path → Bool) (params : List String) (body : Imports.Stmt)
    (h : Imports.ambImps acc (Imports.impsS body) = true) : Imports.analyse acc params body = none :=
  Imports.analyse_refuses acc params body h

/-- ... and when no name has two bindings, the binding that is looked up is the only one the name has -/
theorem the_binding_looked_up_is_the_only_one (acc : Imports.Path → Bool)
    {imps : List (String × Imports.Path)} (hok : Imports.impsOK acc imps = true) (h : Imports.ambImps acc imps = false)
    {x : String} {p : Imports.Path} (hm : (x, p) ∈ imps) : imps.lookup x = some p :=
  Imports.lookup_unique acc hok h hm

/-- the computations before the `fix:` commits missed objects: without any resolution (the pinned tree) an imported name was
looked up in the module of the function; resolved in the order of the text, a use that precedes the import in the text was
missed, and the import of a nested function hid a module name of the enclosing one; written as a chain of attributes from the
root package, the path was hidden by a local variable with the name of that package -/
theorem earlier_resolutions_of_imports_were_wrong :
    (.path ["lz", "model"] ∈ Imports.pyRefs [] Imports.lazyImport ∧ .path ["lz", "model"] ∉ Imports.unresolvedRefs [] Imports.lazyImport) ∧
    (.path ["lz", "fast"] ∈ Imports.pyRefs [] Imports.useBeforeImport ∧
      .path ["lz", "fast"] ∉ Imports.textRefs Imports.accLz [] Imports.useBeforeImport) ∧
    (.glob "h" ∈ Imports.pyRefs [] Imports.nestedImport ∧ .glob "h" ∉ Imports.textRefs Imports.accLz [] Imports.nestedImport) ∧
    (.path ["lz", "fast"] ∈ Imports.pyRefs [] Imports.rootAsLocal ∧ .path ["lz", "fast"] ∉ Imports.chainRefs Imports.accLz [] Imports.rootAsLocal) :=
  ⟨Imports.unresolved_misses_import, Imports.text_order_misses_use_before_import, Imports.text_order_leaks_nested_import,
    Imports.chain_of_attributes_hidden_by_a_local⟩

/-! ## The order in which the calls of an expression are analysed (outside the pipeline model: calls nested in arguments) -/

/-- the context of a call is made of the calls analysed before it: the code analyses the calls of an expression in the order in
which Python makes them (the arguments before the call), when the called functions are given by name - the only form the analysis
understands -/
theorem calls_analysed_in_evaluation_order (e : Order.CE) (h : Order.funcSimple e = true) :
    Order.ddsOrder e = Order.pyOrder e :=
  Order.dds_order_eq e h

/-- before the `fix:` commit the call came before its arguments: in `g(h())` the call of `h` was not in the context of `g` -/
theorem call_before_arguments_was_wrong :
    Order.pyOrder Order.nested = [1, 0] ∧ Order.oldOrder Order.nested = [0, 1] ∧ Order.ddsOrder Order.nested = [1, 0] :=
  Order.old_order_differs

end Dds.C01
