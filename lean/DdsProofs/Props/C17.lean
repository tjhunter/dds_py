import DdsProofs.Codec
import DdsProofs.Hash
import Generated.Facts
/-!
# C17 — results are read back with the codec that wrote them, text and bytes verbatim

* `same_codec`: a blob written with codec `c` (its reference is recorded in the metadata) is read back with
  `c`, after **any** sequence of codec registrations in between — in this or another process — that does
  not bind `c`'s reference to a different codec;
* `file_codecs_never_rebind`: registrations through `add_file_codec` never re-bind any reference;
* `text_verbatim`: UTF-8 encoding is injective, so different texts give different files; that the string codec
  writes the UTF-8 text of a `str` (and the bytes codec the value itself) is read off the code, not modelled: a
  `Codec` here is a reference, an implementation name and the types it handles;
* `default_registry` (Tie B, re-read from the code on every run): which codec writes each result type;
* `reference_kinds` (Tie B): every protocol reference of the default registry is bound to a codec of the kind its
  name says (for the DBFS registry with its legacy references: `C19.legacy_alias_kind`).
-/
namespace Dds.C17
open Dds List

theorem same_codec (r : Registry) (c : Codec) (ops : List RegOp)
    (hwrite : aget r.protocols c.ref = some c)
    (hops : ∀ op ∈ ops, op.codec.ref = c.ref → op.codec = c) :
    (ops.foldl Registry.apply r).getCodec none (some c.ref) = .ok c := by
  simp only [Registry.getCodec, protocols_preserved_all c ops r hwrite hops]

theorem file_codecs_never_rebind (r : Registry) (c c' : Codec) (h : aget r.protocols c.ref = some c) :
    aget (r.addFileCodec c').protocols c.ref = some c :=
  addFileCodec_protocols r c c' h

theorem text_verbatim (s t : String) (h : utf8 s = utf8 t) : s = t := utf8_inj h

/-- kind of codec a protocol reference names / a codec class implements -/
def kindOfRef (r : String) : String :=
  if r = "local.string" ∨ r = "dbfs.string" then "string"
  else if r = "local.bytes" ∨ r = "dbfs.bytes" then "bytes"
  else if r = "local.pickle" ∨ r = "dbfs.pickle" then "pickle"
  else if r = "local.pandas" ∨ r = "default.pandas_local" then "pandas"
  else if r = "dbfs.pyspark" then "pyspark"
  else "unknown:" ++ r

def kindOfClass (c : String) : String :=
  if c = "StringLocalFileCodec" then "string"
  else if c = "BytesFileCodec" then "bytes"
  else if c = "PickleLocalFileCodec" then "pickle"
  else if c = "PandasFileCodec" then "pandas"
  else if c = "PySparkDatabricksCodec" then "pyspark"
  else "unknown-class:" ++ c

theorem default_registry :
    Facts.localTypeCodec = [("str", "local.string"), ("bytes", "local.bytes"), ("bytearray", "local.bytes"),
      ("NoneType", "local.pickle"), ("int", "local.pickle"), ("dict", "local.pickle"), ("list", "local.pickle"),
      ("object", "local.pickle"), ("OrderedDict", "local.pickle"), ("pandas.DataFrame", "local.pandas")] ∧
    Facts.dbfsTypeCodec = Facts.localTypeCodec := ⟨rfl, rfl⟩

theorem reference_kinds :
    Facts.localRefCodec.all (fun rc => kindOfRef rc.1 == kindOfClass rc.2) = true := by
  simp [Facts.localRefCodec, kindOfRef, kindOfClass]

/-- non-vacuity of `same_codec`: the default string codec survives the registration of a user codec -/
example :
    let str : Codec := { ref := "local.string", impl := "StringLocalFileCodec", types := ["str"] }
    let user : Codec := { ref := "user.codec", impl := "User", types := ["mytype", "str"] }
    let r := (({} : Registry).addFileCodec str)
    (r.addCodec user).getCodec none (some "local.string") = .ok str ∧
    (r.addCodec user).getCodec (some "str") none = .ok user := by decide +kernel

end Dds.C17
