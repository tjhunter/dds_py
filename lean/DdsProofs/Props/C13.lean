import DdsProofs.SigInj
import DdsProofs.Args
import DdsProofs.Props.C05
/-!
# C13 — a kept call's signature depends on the argument binding, not on its spelling

For functions whose parameters are all plain (positional-or-keyword: the supported subset),
for **every** parameter list, spelling and value:

* `spelling_invariant` — two spellings with the same binding (`bind`) get the same argument context,
  on the direct route (`get_arg_ctx`);
* `source_eq_direct` — a call seen in source whose arguments are all literals gets exactly the argument
  context of the direct call with those values, when that call has one (`get_arg_ctx_ast` vs `get_arg_ctx`);
* `binding_injective` — equal argument contexts ⇒ equal bindings up to `canonKF` (C05): different
  bindings get different argument hashes;
* `sig_injective` — and the argument hashes are recoverable from the signature (`_build_return_sig`): two calls of
  one function (same body, dependencies, sub-calls, environment) with fully known arguments and equal signatures have
  equal argument hashes, parameter by parameter.
-/
namespace Dds.C13
open Dds List

theorem spelling_invariant (m : Nat) (ps : List Param) (hp : plainParams ps = true)
    (a₁ a₂ : List PyVal) (k₁ k₂ : List (String × PyVal))
    (hb : bind ps a₁ k₁ = bind ps a₂ k₂) :
    getArgCtx m ps a₁ k₁ = getArgCtx m ps a₂ k₂ := by
  rw [getArgCtx_eq m ps a₁ k₁ hp, getArgCtx_eq m ps a₂ k₂ hp, hb]

theorem source_eq_direct (m : Nat) (ps : List Param) (hp : plainParams ps = true)
    (args : List PyVal) (kw : List (String × PyVal)) (c : List (String × Option Sg))
    (h : getArgCtx m ps args kw = .ok c) :
    getArgCtxAst m ps (constArgs args) (constKw kw) = .ok c :=
  getArgCtxAstFrom_const m args kw ps 0 c hp h

theorem binding_injective (m : Nat) (ps : List Param) (hp : plainParams ps = true)
    (a₁ a₂ : List PyVal) (k₁ k₂ : List (String × PyVal)) (c : List (String × Option Sg))
    (h₁ : getArgCtx m ps a₁ k₁ = .ok c) (h₂ : getArgCtx m ps a₂ k₂ = .ok c) :
    canonBinding (bind ps a₁ k₁) = canonBinding (bind ps a₂ k₂) := by
  rw [getArgCtx_eq m ps _ _ hp] at h₁ h₂
  exact hashBinding_inj m _ _ c h₁ h₂

theorem sig_injective (body : Option Sg) (deps : List (String × Sg)) (subs : List Sg)
    (ed : List (String × String)) (ev : List (String × Sg))
    (c₁ c₂ : List (String × Sg)) (i₁ i₂ : Option Sg)
    (hnames : c₁.map Prod.fst = c₂.map Prod.fst) (hnd : (c₁.map Prod.fst).Nodup)
    (h : buildReturnSig body ⟨c₁.map (fun p => (p.1, some p.2)), i₁⟩ deps subs ed ev =
         buildReturnSig body ⟨c₂.map (fun p => (p.1, some p.2)), i₂⟩ deps subs ed ev) :
    c₁ = c₂ :=
  prefixKey_perm_eq "arg_" hnames hnd
    (buildReturnSig_inj _ _ _ _ _ _ _ _ _ _ _ _ _ _ (argPairs_known c₁ i₁) (argPairs_known c₂ i₂) h).2.1

/-- **a `*args` parameter of a call seen in source** (outside `plainParams`; since the `fix:` commit for `*args`): the hash
recorded for the parameter determines, up to the canonical form of C05, the tuple of ALL the remaining positional literals -
two calls that bind different tuples to `*rest` do not share the hash of that parameter -/
theorem varpos_binding_injective (m : Nat) (p : Param) (hk : p.kind = .varPos) (idx : Nat)
    (args₁ args₂ : List PyVal) (kw₁ kw₂ : List (String × AstArg)) (h : Sg)
    (h₁ : argAst m (constArgs args₁) kw₁ idx p = .ok (some h))
    (h₂ : argAst m (constArgs args₂) kw₂ idx p = .ok (some h)) :
    canonKF (.list (args₁.drop idx)) = canonKF (.list (args₂.drop idx)) := by
  have key : ∀ (args : List PyVal) (kw : List (String × AstArg)),
      argAst m (constArgs args) kw idx p = .ok (some h) → ddsHash m (.list (args.drop idx)) = .ok h := by
    intro args kw e
    unfold argAst at e
    simp only [hk, ne_eq, reduceCtorEq, not_false_eq_true, not_true_eq_false, and_false, if_false, if_true] at e
    rw [constArgs, ← List.map_drop, ← constArgs, allConst_constArgs] at e
    obtain ⟨g, hg, e⟩ := bind_ok e
    cases e
    exact liftHash_ok hg
  -- C05 says where `dds_hash` is injective (this file is built on it, tables included)
  exact C05.inj_partial m _ _ _ (key args₁ kw₁ h₁) (key args₂ kw₂ h₂)

/-- non-vacuity: `def g(a, *rest)` called as `g(1, 2, 3)` and as `g(1, 2, 4)`: the parameter `rest` gets two different hashes -/
example :
    let p : Param := { name := "rest", kind := .varPos }
    (argAst 10 (constArgs [.int 1, .int 2, .int 3]) [] 1 p).toOption.isSome = true ∧
    argAst 10 (constArgs [.int 1, .int 2, .int 3]) [] 1 p ≠ argAst 10 (constArgs [.int 1, .int 2, .int 4]) [] 1 p := by
  refine ⟨by decide +kernel, by decide +kernel⟩

/-- non-vacuity: three spellings of one binding of `def f(x, y=0)`, with a concrete signature -/
example :
    let ps := [{ name := "x" : Param }, { name := "y", default := some (.int 0) }]
    bind ps [.int 1] [] = bind ps [] [("x", .int 1)] ∧
    bind ps [.int 1] [] = bind ps [.int 1, .int 0] [] ∧
    (getArgCtx 10 ps [.int 1] []).toOption.isSome = true := by
  exact ⟨rfl, rfl, by decide +kernel⟩

end Dds.C13
