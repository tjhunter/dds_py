import DdsProofs.Conc
/-!
# C06 — a process killed at any instant never leaves a store that serves wrong data

Model: `DdsModel/Conc.lean`. kill -9 loses the process state and keeps the completed file-system operations: a
killed process is one that is never scheduled again; its temporary files stay behind as garbage that nothing reads.

* `crash_safe`: run any processes under any schedule up to **any** point (every operation boundary, both halves of
  every write), kill **any** subset, start a new process (fresh id; every key it commits a path to is published or
  stored by an earlier request of its own), continue under any schedule: at the crash and at the end, so at every
  moment, everything published is complete and correct (`DiskInv`), and nothing has to be cleaned up: the recovered
  system satisfies `SysInv`, so `C07.no_spurious_failure` applies to it;
* `recovery_reads_right`: whatever a later evaluation finds present is right (what it finds absent it recomputes);
* `paths_old_or_new`: at every moment a path resolves to the key it had or to one that some process has a request
  to commit it to, and that key's blob is complete.
-/
namespace Dds.C06
open Dds List

theorem crash_safe (V : Truth) (s : Sys) (h : SysInv V s) (before : List Nat) (alive : Proc → Bool)
    (q : Proc) (hfresh : ∀ p ∈ (s.run V before).procs, p.id ≠ q.id) (hidx : q.idx = 0) (hpc : q.pc = 0)
    (hready : ∀ (j : Nat) l k, q.reqs[j]? = some (Req.sync l k) →
      (aget (s.run V before).disk.metas k).isSome ∨ ∃ (i : Nat) (k' : Key), i < j ∧ q.reqs[i]? = some (Req.store k') ∧ k' = k)
    (after : List Nat) :
    let crashed := s.run V before
    let recovered : Sys := ⟨crashed.disk, crashed.procs.filter alive ++ [q]⟩
    DiskInv V crashed.disk ∧ SysInv V (recovered.run V after) := by
  have h1 := inv_run V before s h
  have h2 := inv_kill V _ alive h1
  have h3 := inv_spawn V _ q h2 (fun p hp => hfresh p (mem_filter.mp hp).1) (.start V _ q hidx hpc hready)
  exact ⟨h1.1, inv_run V after _ h3⟩

theorem recovery_reads_right (V : Truth) (s : Sys) (h : SysInv V s) (sched : List Nat) (k : Key)
    (hk : (s.run V sched).disk.hasBlob k = true) :
    (s.run V sched).disk.fetch k = some (V.content k, V.metaOf k) :=
  reader_correct V _ (inv_run V sched s h).1 k hk

theorem paths_old_or_new (V : Truth) (s : Sys) (h : SysInv V s) (sched : List Nat) (l : Loc) (k : Key)
    (hl : (s.run V sched).disk.resolve l = some k) :
    (s.disk.resolve l = some k ∨ ∃ p ∈ s.procs, Req.sync l k ∈ p.reqs) ∧
    (s.run V sched).disk.fetch k = some (V.content k, V.metaOf k) :=
  ⟨resolve_old_or_requested V sched s h l k hl,
   reader_correct V _ (inv_run V sched s h).1 k (resolve_complete V _ (inv_run V sched s h).1 l k hl)⟩

/-- non-vacuity: a writer killed after the first half of the blob's content; the next process finds nothing
under the key (so it recomputes) and the old path still resolves to the old complete blob -/
example :
    let V : Truth := { content := fun k => if k = "old" then [9, 9] else [1, 2, 3, 4], metaOf := fun _ => "local.string" }
    let d0 : Disk := { blobs := [("old", [9, 9])], metas := [("old", "local.string")], links := [(["p"], "old")] }
    let w : Proc := { id := 0, reqs := [.store "new", .sync ["p"] "new"] }
    let s := (Sys.mk d0 [w]).run V [0, 0]
    s.disk.hasBlob "new" = false ∧ s.disk.resolve ["p"] = some "old" ∧
    s.disk.fetch "old" = some ([9, 9], "local.string") := by
  decide +kernel

end Dds.C06
