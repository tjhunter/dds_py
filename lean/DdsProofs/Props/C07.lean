import DdsProofs.Conc
/-!
# C07 — processes sharing a local store never observe partial or foreign results

Model: `DdsModel/Conc.lean` — any number of processes, each a list of `store` / `sync` requests executed
one file-system operation at a time (torn writes: two halves), under **any** schedule.

* `interleave_safe`: from a state satisfying the invariant, after any schedule, everything published on the
  disk is complete and correct (`DiskInv`);
* `reads_complete`: hence any reader, at any moment, that finds a blob present gets the complete right
  content with the right metadata, and any path it resolves leads to such a blob;
* `no_spurious_failure`: in every reachable state the next operation of every process finds the temporary
  file / link it is about to publish: no `FileNotFoundError` (a `FileExistsError` is not in the model: temporary
  names are private, directories are created with `exist_ok`, `os.replace` overwrites);
* `finished_serves`: when a process has run to completion every key it stored is readable;
* `init`: an empty store with any processes that have not begun (distinct ids, each syncing only keys it stores
  first) satisfies the invariant.
-/
namespace Dds.C07
open Dds List

theorem interleave_safe (V : Truth) (s : Sys) (h : SysInv V s) (sched : List Nat) :
    DiskInv V (s.run V sched).disk := (inv_run V sched s h).1

theorem reads_complete (V : Truth) (s : Sys) (h : SysInv V s) (sched : List Nat) :
    (∀ k, (s.run V sched).disk.hasBlob k = true → (s.run V sched).disk.fetch k = some (V.content k, V.metaOf k)) ∧
    (∀ l k, (s.run V sched).disk.resolve l = some k → (s.run V sched).disk.hasBlob k = true) :=
  ⟨fun k hk => reader_correct V _ (interleave_safe V s h sched) k hk,
   fun l k hl => resolve_complete V _ (interleave_safe V s h sched) l k hl⟩

theorem no_spurious_failure (V : Truth) (s : Sys) (h : SysInv V s) (sched : List Nat) :
    ∀ p ∈ (s.run V sched).procs,
      (∀ k, p.reqs[p.idx]? = some (.store k) → p.pc = 3 → (tget (s.run V sched).disk.tmpFiles (p.id, p.idx)).isSome) ∧
      (∀ k, p.reqs[p.idx]? = some (.store k) → 6 ≤ p.pc → (tget (s.run V sched).disk.tmpFiles (p.id, p.idx)).isSome) ∧
      (∀ l k, p.reqs[p.idx]? = some (.sync l k) → 2 ≤ p.pc → (tget (s.run V sched).disk.tmpLinks (p.id, p.idx)).isSome) := by
  intro p hp
  have hpi := (inv_run V sched s h).2.1 p hp
  exact ⟨fun k hr hpc => by rw [hpi.tmp_full k hr hpc]; rfl, fun k hr hpc => hpi.tmp_meta k hr hpc,
    fun l k hr hpc => by rw [hpi.tmp_link l k hr hpc]; rfl⟩

theorem finished_serves (V : Truth) (s : Sys) (h : SysInv V s) (sched : List Nat) :
    ∀ p ∈ (s.run V sched).procs, p.idx = p.reqs.length → ∀ k, Req.store k ∈ p.reqs →
      (s.run V sched).disk.fetch k = some (V.content k, V.metaOf k) := by
  intro p hp hfin k hk
  have hinv := inv_run V sched s h
  obtain ⟨j, hj, hjk⟩ := getElem_of_mem hk
  exact reader_correct V _ hinv.1 k
    (hinv.1.has_of_meta ((hinv.2.1 p hp).done_ok j k (hfin ▸ hj) (hjk ▸ getElem?_eq_getElem hj)))

theorem init (V : Truth) (ps : List Proc) (hids : ps.Pairwise (fun a b => a.id ≠ b.id))
    (hstart : ∀ p ∈ ps, p.idx = 0 ∧ p.pc = 0)
    (hready : ∀ p ∈ ps, ∀ (j : Nat) l k, p.reqs[j]? = some (Req.sync l k) →
      ∃ (i : Nat), i < j ∧ p.reqs[i]? = some (Req.store k)) :
    SysInv V ⟨{}, ps⟩ :=
  ⟨⟨fun _ _ h => (nomatch h), fun _ _ h => (nomatch h), fun _ _ h => (nomatch h)⟩,
    fun p hp => .start V _ p (hstart p hp).1 (hstart p hp).2 fun j l k hr =>
      (hready p hp j l k hr).elim fun i h => .inr ⟨i, k, h.1, h.2, rfl⟩,
    hids⟩

/-- non-vacuity: two processes storing the same key and committing the same path, one schedule -/
example :
    let V : Truth := { content := fun _ => [1, 2, 3, 4], metaOf := fun _ => "local.string" }
    let p0 : Proc := { id := 0, reqs := [.store "k", .sync ["p"] "k"] }
    let p1 : Proc := { id := 1, reqs := [.store "k", .sync ["p"] "k"] }
    let s := (Sys.mk {} [p0, p1]).run V [0, 1, 1, 0, 0, 1, 0, 1, 1, 1, 1, 0, 0, 0, 0, 0, 1, 1, 1, 0, 0]
    s.disk.fetch "k" = some ([1, 2, 3, 4], "local.string") ∧ s.disk.resolve ["p"] = some "k" := by
  decide +kernel

end Dds.C07
