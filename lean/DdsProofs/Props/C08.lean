import DdsProofs.LocalStore
import DdsProofs.Props.C12
/-!
# C08 — stores round-trip blobs and paths; distinct paths never alias or escape

* `local_refines`: for **every** operation sequence (store / has / fetch / sync / fetch_paths, any length,
  any interleaving of keys and paths) over a universe of DDS paths that have a location and no two of which
  share one (`PathUniverse`; by `universe_of_distinct_segments` any set of located paths with pairwise
  different segment lists), `LocalFileStore` on a fresh directory answers exactly like the dictionary
  specification (`Dict`, which is `MemoryStore`); re-opening the store is the identity on the modelled disk state.
  Left out: the model's link table is flat, while on the file system a path and a proper extension of it cannot
  both be committed (a link stands where a directory is needed); `PathUniverse` does not exclude such pairs, C11
  rejects them within one evaluation.
* `cached_local_refines`: the same for the store wrapped with the object cache, for every capacity
  (composition with C12).
* `loc_injective`, `loc_contained`: two paths share a location only if they have the same sequence of
  non-empty segments; a location is a non-empty list of components none of which is `.` or `..`, so it
  lies strictly below the data directory.
-/
namespace Dds.C08
open Dds List

theorem empty_related (P : DPath → Prop) : LocalRel P {} {} :=
  ⟨fun _ => rfl, fun _ => rfl, fun _ _ _ _ => rfl⟩

theorem local_refines (P : DPath → Prop) (hP : PathUniverse P) (ops : List StoreOp)
    (hops : ∀ op ∈ ops, opOk P op) :
    (runOps LocalSt.step {} ops).2 = (runOps Dict.step {} ops).2 :=
  ((local_sim P hP).run ops {} {} hops (empty_related P)).1

theorem cached_local_refines (P : DPath → Prop) (hP : PathUniverse P) (cap : Nat) (ops : List StoreOp)
    (hops : ∀ op ∈ ops, opOk P op) :
    (runOps (Lru.step cap LocalSt.step) { cache := [], inner := {} } ops).2 = (runOps Dict.step {} ops).2 :=
  C12.transparent _ _ _ (local_sim P hP) (fun _ _ => trivial) cap {} {} (empty_related P) ops hops

theorem loc_contained (p : DPath) (l : Loc) (hp : localLoc p = .ok l) :
    l = pathSegs p ∧ l ≠ [] ∧ ∀ s ∈ l, s ≠ "." ∧ s ≠ ".." ∧ s ≠ "" := by
  unfold localLoc at hp
  simp only at hp
  split at hp
  · cases hp
  · rename_i h
    simp only [Except.ok.injEq] at hp
    subst hp
    simp only [Bool.or_eq_true, List.isEmpty_iff, any_eq_true, decide_eq_true_eq, not_or, not_exists, not_and] at h
    -- `pathSegs` keeps the non-empty segments only
    exact ⟨rfl, h.1, fun s hs => ⟨(h.2 s hs).1, (h.2 s hs).2, of_decide_eq_true (mem_filter.mp hs).2⟩⟩

theorem loc_injective (p q : DPath) (l : Loc) (hp : localLoc p = .ok l) (hq : localLoc q = .ok l) :
    pathSegs p = pathSegs q :=
  (loc_contained p l hp).1.symm.trans (loc_contained q l hq).1

theorem universe_of_distinct_segments (P : DPath → Prop)
    (hdef : ∀ p, P p → ∃ l, localLoc p = .ok l)
    (hseg : ∀ p q, P p → P q → pathSegs p = pathSegs q → p = q) : PathUniverse P :=
  ⟨hdef, fun p q l hp hq h1 h2 => hseg p q hp hq (loc_injective p q l h1 h2)⟩

/-- non-vacuity: the concatenation-ambiguous names keep different locations; `..` is refused -/
example : (localLoc "/a/b/c").toOption = some ["a", "b", "c"] ∧ (localLoc "/ab/c").toOption = some ["ab", "c"] ∧
    (localLoc "/../x").toOption = none ∧ (localLoc "/").toOption = none := by decide +kernel

end Dds.C08
