import DdsProofs.Lru
/-!
# C12 — the in-memory object cache is invisible and bounded

* `transparent`: for **every** wrapped store that itself simulates the dictionary specification on the operations
  it admits (`Sim R ok istep`, with `has k` admitted wherever `fetch k` is), **every** capacity and **every**
  sequence of admitted operations — absent keys, `None`-valued blobs and re-stored keys included — the wrapper's
  answers are exactly the dictionary's;
* `transparent_memory`: the instance for `MemoryStore` (which *is* the dictionary);
* `wrapper_simulates`: the wrapper is itself a store that simulates the dictionary, so wrappers compose with store
  refinements (`C08.cached_local_refines`);
* `bounded`: the cache never holds more than `cap` entries, in every reachable state;
* `decode_*`: how `set_store(cache_objects=…)` chooses the capacity.
-/
namespace Dds.C12
open Dds

theorem transparent {σ : Type} (R : σ → Dict → Prop) (ok : StoreOp → Prop) (istep : σ → StoreOp → σ × Out)
    (hsim : Sim R ok istep) (hokhas : ∀ k, ok (.fetch k) → ok (.has k)) (cap : Nat) (i₀ : σ) (d₀ : Dict) (h₀ : R i₀ d₀)
    (ops : List StoreOp) (hops : ∀ op ∈ ops, ok op) :
    (runOps (Lru.step cap istep) { cache := [], inner := i₀ } ops).2 = (runOps Dict.step d₀ ops).2 :=
  (Sim.run (lru_step hsim hokhas cap) ops { cache := [], inner := i₀ } d₀ hops ⟨h₀, List.forall_mem_nil _⟩).1

theorem transparent_memory (cap : Nat) (d₀ : Dict) (ops : List StoreOp) :
    (runOps (Lru.step cap Dict.step) { cache := [], inner := d₀ } ops).2 = (runOps Dict.step d₀ ops).2 :=
  transparent _ _ _ Sim.refl (fun _ _ => trivial) cap d₀ d₀ rfl ops (fun _ _ => trivial)

theorem wrapper_simulates {σ : Type} (R : σ → Dict → Prop) (ok : StoreOp → Prop) (istep : σ → StoreOp → σ × Out)
    (hsim : Sim R ok istep) (hokhas : ∀ k, ok (.fetch k) → ok (.has k)) (cap : Nat) :
    Sim (LruRel R) ok (Lru.step cap istep) :=
  lru_step hsim hokhas cap

theorem bounded {σ : Type} (istep : σ → StoreOp → σ × Out) (cap : Nat) :
    ∀ (ops : List StoreOp) (s : Lru σ), s.cache.length ≤ cap →
      (runOps (Lru.step cap istep) s ops).1.cache.length ≤ cap := by
  intro ops
  induction ops with
  | nil => exact fun _ h => h
  | cons op ops ih => exact fun s h => ih _ (lru_step_bounded istep cap s op h)

theorem decode_none : decodeCacheObjects .none = none := rfl
theorem decode_false : decodeCacheObjects (.bool false) = none := rfl
theorem decode_true : decodeCacheObjects (.bool true) = some 10 := rfl
theorem decode_zero : decodeCacheObjects (.int 0) = none := rfl
theorem decode_pos (n : Nat) (h : 0 < n) : decodeCacheObjects (.int n) = some n := by
  have h1 : ¬ ((n : Int) < 0) := Int.not_lt.mpr (Int.natCast_nonneg n)
  have h2 : (n : Int) > 0 := Int.natCast_pos.mpr h
  simp only [decodeCacheObjects, if_neg h1, if_pos h2, Int.toNat_natCast]
theorem decode_neg (i : Int) (h : i < 0) : decodeCacheObjects (.int i) = some unboundedCacheSize := by
  simp [decodeCacheObjects, h]

/-- non-vacuity: capacity 1, two keys, an absent key and a `None` blob — the sequence on which the code
as originally written answered differently from the bare store -/
example :
    let ops := [StoreOp.fetch "absent", .has "absent", .store "absent" (some 1), .fetch "absent",
                .store "n" none, .fetch "n", .has "n", .fetch "absent", .store "absent" (some 2), .fetch "absent"]
    (runOps (Lru.step 1 Dict.step) { cache := [], inner := {} } ops).2 = (runOps Dict.step {} ops).2 ∧
    (runOps Dict.step {} ops).2 = [.val none, .bool false, .unit, .val (some 1), .unit, .val none, .bool true,
                                   .val (some 1), .unit, .val (some 2)] := by
  decide +kernel

end Dds.C12
