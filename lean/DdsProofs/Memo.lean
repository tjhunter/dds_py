import DdsProofs.Sim
import DdsProofs.EvalStep
/-!
# Memoised evaluation returns what plain execution returns (`memo_correct`)

One evaluation (`evalStep`), in any version of the code, against a sound store: the body of the root is simulated (`sim_fn`), the
root itself is a kept call like any other (`sim_keep`) or, not kept, is served all the same if its signature has a blob — the
plain value, since the store is sound.
-/
namespace Dds
open List

/-- the request's arguments are values on which `dds_hash` is injective (`Universe.avals`) -/
def Universe.request (U : Universe) (rq : Request) : Prop :=
  (∀ a ∈ rq.args, U.avals a) ∧ (∀ kv ∈ rq.kwargs, U.avals kv.2)

def PathsKept (S : PStore) (K : LoadEnv) : Prop :=
  ∀ p k, aget S.paths p = some k → ∃ v, sgGet S.blobs k = some v ∧ aget K p = some v

/-- **`memo_correct`.** One evaluation, in any version of the code, against a sound store whose committed paths hold what
plain execution has kept, accepted by the analysis, which does not itself produce the paths it loads: the store stays
sound and loses no blob; when the eval stage runs, the value returned (or the exception raised) is exactly that of plain
execution of the current code with the current arguments from the values kept so far; and plain execution leaves, at every
path the evaluation keeps, the right value of the signature the evaluation commits the path to. -/
theorem memo_correct (U : Universe) (m x : Nat) (W : World) (S : PStore) (K : LoadEnv) (rq : Request)
    (E : EvalCtx U x W) (hrq : U.request rq) (hS : Sound U m x S) (hPK : PathsKept S K)
    {fn : Fn} {env : Env} {fis' : FIS} {paths : List (String × Sg)}
    (ha : analysisPhase m W S rq = .ok (fn, env, fis', paths)) (hext : ∀ p ∈ fis'.allLoads, External paths p) :
    Sound U m x (evalStep m W S rq).store ∧ Extends S (evalStep m W S rq).store ∧
    (Stage.eval ∈ rq.stages →
      (evalStep m W S rq).value = ((plainFn W W.fuel { kept := K } fn env).1).map some) ∧
    KStep U m x S.blobs paths K (plainFn W W.fuel { kept := K } fn env).2.kept ∧
    (∀ v, (plainFn W W.fuel { kept := K } fn env).1 = .ok v →
      Right U m x S.blobs fis'.retSig v ∧
      ∀ path ∈ FIS.keptPathsL fis'.subs, PKq U m x S.blobs paths (plainFn W W.fuel { kept := K } fn env).2.kept path) := by
  obtain ⟨named, refs0, fis, r, P⟩ := analysisPhase_inv ha
  have hU := U.find E.hW P.hfind
  have hfW : fn ∈ W.funs := List.mem_of_find?_eq_some P.hfind
  obtain ⟨_, ev, io, sv, b, d, ret, _, a⟩ := analyse_ok P.hana
  obtain ⟨pa, hpa⟩ := buildReturnSig_argPairs a.hret
  obtain ⟨kvs, hall⟩ := argPairs_allSome hpa rfl
  have hch := root_chain U S.blobs W hU hrq.1 hrq.2 P.hnamed hall P.hbind
  rw [P.subs, P.retSig]
  rw [P.allLoads] at hext
  -- the plain state holds the blobs of the paths the tree loads: they resolve through the store
  have hl : FIS.loadsOK S.blobs K fis := ltree m W paths S.blobs K E.hkp W.fuel refs0 [] fn ⟨named, none⟩ fis r hfW P.hana
    P.pathsOKL hext fun p s _ h => hPK p s (P.hrefs0 p s h)
  have hbody : SimStep U m x S.blobs paths S K
      (fun K' => ∀ path ∈ FIS.keptPathsL fis.subs, PKq U m x S.blobs paths K' path)
      (runFn W paths W.fuel { store := S } fn env) (plainFn W W.fuel { kept := K } fn env) :=
    sim_fn U m x W paths E W.fuel fn ⟨named, none⟩ env refs0 [] fis r { store := S } { kept := K }
      S.blobs hU hfW hch P.hana P.pathsOKL hS (fun _ _ h => h) hl hext (fun p s _ h => P.hrefs0 p s h)
  suffices h : Sound U m x (evalStep m W S rq).store ∧ Extends S (evalStep m W S rq).store ∧
      (Stage.eval ∈ rq.stages → (evalStep m W S rq).value = ((plainFn W W.fuel { kept := K } fn env).1).map some) from
    ⟨h.1, h.2.1, h.2.2, hbody.2.2.2.1, fun v hv => ⟨.intro E.hW E.hx hU hch P.hana hl hv, hbody.2.2.2.2 v hv⟩⟩
  by_cases hs : Stage.eval ∈ rq.stages
  · have hroot : SimStep U m x S.blobs paths S K
        (fun K' => ∀ path ∈ FIS.keptPathsL fis.subs, PKq U m x S.blobs paths K' path)
        (rootRun W S paths fis' fn env) (plainFn W W.fuel { kept := K } fn env) := by
      cases hp : fis'.storePath with
      | some p =>
        rw [rootRun_kept hp]
        exact sim_keep (xst := { store := S }) (q := { kept := K }) E P.hana hS (fun _ _ h => h) hl hU hch (P.key hp) hbody
      | none =>
        rw [rootRun_unkept hp, P.retSig]
        cases hb : sgGet S.blobs fis.retSig with
        | some v => exact ⟨((hS _ _ hb).plain E.hW E.hx hU hch P.hana rfl _ hl).symm, hS, Extends.refl _, hbody.2.2.2⟩
        | none => exact hbody
    rw [evalStep_ran ha hs]
    exact ⟨hroot.2.1.of_blobs (finish_blobs ..), hroot.2.2.1.of_blobs (finish_blobs ..), fun _ => by rw [finish_value, hroot.1]⟩
  · rw [evalStep_restricted ha hs]
    exact ⟨hS, Extends.refl _, fun h => absurd h hs⟩

end Dds
