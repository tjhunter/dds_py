import DdsProofs.AnalyseInv
/-!
# An accepted evaluation has no cycle and no nested `eval` (C11)

`CallPath W fn p`: `p` is a list of function names, each called / named / kept / evaluated by the one before, starting from
the body of `fn`. If the analysis of `fn` succeeds, then on every call path from `fn` no function occurs twice, none is on
the call stack already, and no function on it contains a `dds.eval` (`accepted_paths`). So a call cycle of any length,
through calls, references, keeps or data functions, and a nested `eval` at any depth are rejected by the analysis, before
any user code runs.
-/
namespace Dds
open List

inductive CallPath (W : World) : Fn → List String → Prop
  | nil (fn : Fn) : CallPath W fn []
  | cons (fn : Fn) (it : Item) (f : String) (g : Fn) (rest : List String) :
      it ∈ fn.items → it.calleeName = some f → W.find f = some g → CallPath W g rest → CallPath W fn (f :: rest)

def Analysed (W : World) (rec : Analyse) (stack : List String) (f : String) : Prop :=
  ∃ g refs c r, W.find f = some g ∧ f ∉ stack ∧ rec refs (stack ++ [f]) g c = .ok r

theorem CallStep.analysed {m : Nat} {W : World} {rec : Analyse} {fn : Fn} {isig : Sg} {stack : List String} {st : VisitSt}
    {f : String} {args : List AstArg} {kwargs : List (String × AstArg)} {line : Nat} {g : Fn} {c : Option Sg}
    {named : List (String × Option Sg)} {fis : FIS} {rf : Refs}
    (h : CallStep m W rec fn isig stack st f args kwargs line g c named fis rf) : Analysed W rec stack f :=
  ⟨g, st.refs, ⟨named, c⟩, (fis, rf), h.find, h.fresh, h.sub⟩

theorem visitItems_analysed {m : Nat} {W : World} {rec : Analyse} {fn : Fn} {isig : Sg} {stack : List String}
    {its : List Item} {st st' : VisitSt} (h : visitItems m W rec fn isig stack st its = .ok st')
    (hinv : ∀ f ∈ st.seen, Analysed W rec stack f) :
    ∀ it ∈ its, ¬ it.isEval ∧ ∀ f, it.calleeName = some f → Analysed W rec stack f := by
  induction its generalizing st with
  | nil => exact forall_mem_nil _
  | cons a its ih =>
    obtain ⟨t, h1, h2⟩ := visitItems_cons_inv h
    refine forall_mem_cons.mpr ?_
    cases visitItem_inv h1 with
    | load => exact ⟨⟨not_false, fun _ h => nomatch h⟩, ih h2 hinv⟩
    | seen f line hin => exact ⟨⟨not_false, fun f' hf' => Option.some.inj hf' ▸ hinv f hin⟩, ih h2 hinv⟩
    | call hc _ hstep =>
      have hcal : ∀ f', a.calleeName = some f' → Analysed W rec stack f' := fun f' hf' =>
        Option.some.inj ((Item.calleeName_of_callee hc).symm.trans hf') ▸ hstep.analysed
      refine ⟨⟨fun he => ?_, hcal⟩, ih h2 (forall_seen_afterCall hinv fun _ => hstep.analysed)⟩
      cases a with
      | evalCall => cases hc
      | _ => exact he

theorem accepted_paths {m : Nat} {W : World} (fuel : Nat) {refs : Refs} {stack : List String} {fn : Fn} {ctx : ArgCtx}
    {r : FIS × Refs} (h : analyse m W fuel refs stack fn ctx = .ok r) :
    (∀ it ∈ fn.items, ¬ it.isEval) ∧
    ∀ p, CallPath W fn p → p.Nodup ∧ (∀ n ∈ p, n ∉ stack) ∧ (∀ n ∈ p, ∀ g, W.find n = some g → ∀ it ∈ g.items, ¬ it.isEval) := by
  induction fuel generalizing refs stack fn ctx r with
  | zero => exact absurd h analyse_zero
  | succ fuel ih =>
    obtain ⟨ev, io, sv, b, d, ret, a⟩ := analyse_inv (fis := r.1) (refs' := r.2) h
    have hall := visitItems_analysed a.hvisit (forall_mem_nil _)
    refine ⟨fun it hit => (hall it hit).1, fun p hp => ?_⟩
    cases hp with
    | nil => exact ⟨nodup_nil, forall_mem_nil _, forall_mem_nil _⟩
    | cons _ it f g rest hit hcal hfind hrest =>
      -- the callee was analysed with `f` pushed on the stack: the rest of the path avoids `f` and the stack
      obtain ⟨g', refs', c, r2, hf', hfresh, hsub⟩ := (hall it hit).2 f hcal
      cases hfind.symm.trans hf'
      obtain ⟨k0, k⟩ := ih hsub
      obtain ⟨k1, k2, k3⟩ := k rest hrest
      refine ⟨nodup_cons.mpr ⟨fun hin => k2 f hin (mem_append_right _ mem_cons_self), k1⟩,
        forall_mem_cons.mpr ⟨hfresh, fun n hn hs => k2 n hn (mem_append_left _ hs)⟩,
        forall_mem_cons.mpr ⟨fun g2 hg2 => ?_, k3⟩⟩
      cases hfind.symm.trans hg2
      exact k0

end Dds
