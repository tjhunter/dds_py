import DdsModel.Eval
import DdsProofs.Assoc
/-!
`runItems` and `plainItems` fold a step function over the items of a body and stop at the first error (`andThen`). The
step functions are named here (`runItemRes`, `plainItemRes`), and so is what `call`, `callArgs`, `ref` and `keep` have in
common: a call of a callee with argument expressions (`Item.callee`), kept at a path (`Item.keepPath`) or not. Running
such an item is `runCall`, executing it plainly is `callRes`, whatever the constructor.
-/
namespace Dds
open List

/-! ## What an item says -/

def Item.isEval : Item → Prop
  | .evalCall _ _ => True
  | _ => False

/-- the literal arguments written at a call -/
def Item.hasConst (it : Item) (v : PyVal) : Prop :=
  match it with
  | .callArgs _ args kwargs _ _ _ | .keep _ _ args kwargs _ _ _ =>
    AstArg.const v ∈ args ∨ ∃ n, (n, AstArg.const v) ∈ kwargs
  | _ => False

/-- the line where the call of an item ends -/
def Item.line : Item → Nat
  | .call _ l | .ref _ l | .load _ l | .evalCall _ l => l
  | .callArgs _ _ _ _ _ l | .keep _ _ _ _ _ _ l => l

def Item.callee : Item → Option (String × List AstArg × List (String × AstArg) × List (Option RtExpr) × List (String × Option RtExpr))
  | .call f _ => some (f, [], [], [], [])
  | .ref f _ => some (f, [], [], [], [])
  | .callArgs f a k ra rk _ => some (f, a, k, ra, rk)
  | .keep _ f a k ra rk _ => some (f, a, k, ra, rk)
  | _ => none

def Item.calleeName : Item → Option String
  | .call f _ | .ref f _ | .evalCall f _ => some f
  | .callArgs f _ _ _ _ _ => some f
  | .keep _ f _ _ _ _ _ => some f
  | .load _ _ => none

/-- the path of an explicit `dds.keep` -/
def Item.keepPath : Item → Option String
  | .keep p _ _ _ _ _ _ => some p
  | _ => none

/-- the function is named, not called: analysed once per body -/
def Item.isRef : Item → Bool
  | .ref _ _ => true
  | _ => false

theorem Item.calleeName_of_callee {it : Item} {f : String} {args kwargs rtA rtK}
    (h : it.callee = some (f, args, kwargs, rtA, rtK)) : it.calleeName = some f := by
  cases it <;> cases h <;> rfl

theorem Item.eq_ref {it : Item} {f : String} {args kwargs rtA rtK} (hr : it.isRef = true)
    (hc : it.callee = some (f, args, kwargs, rtA, rtK)) : ∃ l, it = .ref f l := by
  cases it <;> cases hr
  cases hc; exact ⟨_, rfl⟩

/-- `k` after `r`, as `runItems`, `plainItems` and `keepExec` go on after a call: an error ends the run -/
def andThen {α β σ : Type} (r : Except XErr α × σ) (k : α → σ → Except XErr β × σ) : Except XErr β × σ :=
  match r with
  | (.ok v, st) => k v st
  | (.error e, st) => (.error e, st)

theorem andThen_frame_at {α β σ γ : Type} {φ : σ → γ} {a : γ} {r : Except XErr α × σ} {k : α → σ → Except XErr β × σ}
    (hr : φ r.2 = a) (hk : ∀ v, φ (k v r.2).2 = φ r.2) : φ (andThen r k).2 = a := by
  obtain ⟨_ | v, st⟩ := r
  · exact hr
  · exact (hk v).trans hr

theorem andThen_frame {α β σ γ : Type} {φ : σ → γ} {a : γ} {r : Except XErr α × σ} {k : α → σ → Except XErr β × σ}
    (hr : φ r.2 = a) (hk : ∀ v st, φ (k v st).2 = φ st) : φ (andThen r k).2 = a :=
  andThen_frame_at hr fun v => hk v r.2

/-! ## Running under dds -/

def runCall (W : World) (rq : List (String × Sg)) (rec : RunRec) (st : XSt) (f : String) (pos : List RVal)
    (kw : List (String × RVal)) (kp : Option String) : XRes :=
  match W.find f with
  | none => (.error (.dds .objectNotFound), st)
  | some g => match bindRun g.params pos kw 0 with
    | none => (.error (.exc "TypeError" f), st)
    | some env' => match kp with
      | some path => keepExec rq rec st path g env'
      | none => callExec rq rec st g env'

section
variable {rq : List (String × Sg)} {rec : RunRec} {st : XSt} {kp : Option String}

/-- the call is kept at `kp`, or else where the callee is kept (a data function), or not at all -/
theorem runCall_kept (g : Fn) (env : Env) :
    (match kp with
      | some path => keepExec rq rec st path g env
      | none => callExec rq rec st g env) =
    match kp.or g.storePath with
      | some w => keepExec rq rec st w g env
      | none => rec st g env := by
  cases kp with
  | some path => rfl
  | none => unfold callExec; cases g.storePath <;> rfl

variable {W : World} {f : String} {g : Fn} (hfind : W.find f = some g) {pos : List RVal} {kw : List (String × RVal)}
include hfind

theorem runCall_bound {env' : Env} (hb : bindRun g.params pos kw 0 = some env') :
    runCall W rq rec st f pos kw kp = match kp.or g.storePath with
      | some w => keepExec rq rec st w g env'
      | none => rec st g env' := by
  simp only [runCall, hfind, hb]
  exact runCall_kept ..

theorem runCall_unbound (hb : bindRun g.params pos kw 0 = none) :
    runCall W rq rec st f pos kw kp = (.error (.exc "TypeError" f), st) := by
  simp only [runCall, hfind, hb]

end

/-- the result of one item when running under dds (the `let r` of `runItems`) -/
def runItemRes (W : World) (rq : List (String × Sg)) (rec : RunRec) (env : Env) (st : XSt) (results : List RVal) : Item → XRes
  | .call f _ => runCall W rq rec st f [] [] none
  | .ref f _ => runCall W rq rec st f [] [] none
  | .callArgs f args kwargs rtA rtK _ => runCall W rq rec st f (zipArgs results env args rtA) (zipKw results env kwargs rtK) none
  | .keep path f args kwargs rtA rtK _ =>
    runCall W rq rec st f (zipArgs results env args rtA) (zipKw results env kwargs rtK) (some path)
  | .load path _ =>
    match (aget rq path).orElse (fun _ => aget st.store.paths path) with
    | none => (.error (.dds .missingPaths), st)
    | some key => (.ok ((sgGet st.store.blobs key).getD (.py .none)), st)
  | .evalCall _ _ => (.error (.dds .evalInEval), st)

section
variable {W : World} {rq : List (String × Sg)} {rec : RunRec} {env : Env} {st : XSt} {results : List RVal}

theorem runItemRes_load (path : String) (line : Nat) :
    runItemRes W rq rec env st results (.load path line) =
      match (aget rq path).orElse (fun _ => aget st.store.paths path) with
      | none => (.error (.dds .missingPaths), st)
      | some key => (.ok ((sgGet st.store.blobs key).getD (.py .none)), st) := rfl

theorem runItemRes_load_snd (path : String) (line : Nat) :
    (runItemRes W rq rec env st results (.load path line)).2 = st := by
  rw [runItemRes_load]; split <;> rfl

theorem runItemRes_load_ok {path : String} {line : Nat} {key : Sg} {v : RVal} (hp : aget rq path = none)
    (hc : aget st.store.paths path = some key) (hb : sgGet st.store.blobs key = some v) :
    runItemRes W rq rec env st results (.load path line) = (.ok v, st) := by
  rw [runItemRes_load, hp]
  simp only [Option.orElse, hc, hb, Option.getD_some]

theorem runItemRes_callee {it : Item} {f : String} {args kwargs rtA rtK}
    (h : it.callee = some (f, args, kwargs, rtA, rtK)) :
    runItemRes W rq rec env st results it =
      runCall W rq rec st f (zipArgs results env args rtA) (zipKw results env kwargs rtK) it.keepPath := by
  cases it <;> cases h <;> rfl

end

theorem keepExec_eq (rq : List (String × Sg)) (rec : RunRec) (st : XSt) (path : String) (g : Fn) (env : Env) :
    keepExec rq rec st path g env =
      match aget rq path with
      | none => (.error (.dds .keyError), st)
      | some key => match sgGet st.store.blobs key with
        | some v => (.ok v, st)
        | none => andThen (rec st g env) fun v st' => (.ok v, { st' with store := st'.store.storeBlob key v }) := by
  unfold keepExec andThen
  cases aget rq path with
  | none => rfl
  | some key =>
    dsimp only
    cases sgGet st.store.blobs key with
    | some v => rfl
    | none =>
      dsimp only
      generalize rec st g env = r
      obtain ⟨_ | _, _⟩ := r <;> rfl

section
variable {rq : List (String × Sg)} {rec : RunRec} {st : XSt} {path : String} {g : Fn} {env : Env} {key : Sg}

theorem keepExec_hit {v : RVal} (hk : aget rq path = some key) (hb : sgGet st.store.blobs key = some v) :
    keepExec rq rec st path g env = (.ok v, st) := by
  simp only [keepExec_eq, hk, hb]

theorem keepExec_miss (hk : aget rq path = some key) (hb : sgGet st.store.blobs key = none) :
    keepExec rq rec st path g env =
      andThen (rec st g env) fun v st' => (.ok v, { st' with store := st'.store.storeBlob key v }) := by
  simp only [keepExec_eq, hk, hb]

end

theorem runItems_step (W : World) (rq : List (String × Sg)) (rec : RunRec) (fn : Fn) (env : Env) (st : XSt)
    (results : List RVal) (it : Item) (its : List Item) :
    runItems W (some rq) rec fn env st results (it :: its) =
      andThen (runItemRes W rq rec env st results it) fun v st' => runItems W (some rq) rec fn env st' (results ++ [v]) its := by
  have : runItems W (some rq) rec fn env st results (it :: its) =
      match runItemRes W rq rec env st results it with
      | (.ok v, st') => runItems W (some rq) rec fn env st' (results ++ [v]) its
      | (.error e, st') => (.error e, st') := by cases it <;> rfl
  rw [this]
  generalize runItemRes W rq rec env st results it = r
  obtain ⟨_ | _, _⟩ := r <;> rfl

theorem runFn_step (W : World) (rq : List (String × Sg)) (fuel : Nat) (st : XSt) (fn : Fn) (env : Env) :
    runFn W rq (fuel + 1) st fn env =
      andThen (runItems W (some rq) (runFn W rq fuel) fn env { st with log := st.log ++ [fn.name] } [] fn.items)
        fun results st' => match fn.fails with
          | some kind => (.error (.exc kind fn.name), st')
          | none => (.ok (bodyValue W fn env results), st') := by
  simp only [runFn]
  generalize runItems W (some rq) (runFn W rq fuel) fn env { st with log := st.log ++ [fn.name] } [] fn.items = r
  obtain ⟨_ | _, _⟩ := r <;> rfl

/-! ### The run touches the store through `storeBlob` only

so what `storeBlob` leaves alone (`φ`: the path table, the kind of store) the run leaves alone. -/

theorem sgGet_eq {α} (l : List (Sg × α)) (k : Sg) : sgGet l k = kvGet l k :=
  eq_kvGet sgGet (fun _ => rfl) (fun _ _ _ _ => rfl) l k

section
variable (S : PStore) (k : Sg) (v : RVal)

theorem sgGet_storeBlob_eq (k' : Sg) :
    sgGet (S.storeBlob k v).blobs k' = if S.noop = false ∧ k = k' then some v else sgGet S.blobs k' := by
  unfold PStore.storeBlob
  cases S.noop with
  | true => simp only [if_true, Bool.true_eq_false, false_and, if_false]
  | false => simp only [Bool.false_eq_true, if_false, true_and, sgGet_eq, kvGet_put]

theorem storeBlob_paths' : (S.storeBlob k v).paths = S.paths := by
  unfold PStore.storeBlob; split <;> rfl

theorem storeBlob_noop : (S.storeBlob k v).noop = S.noop := by
  unfold PStore.storeBlob; split <;> rfl

end

/-- a run function that never writes the path table -/
def PathsFrame (rec : RunRec) : Prop := ∀ st fn env, (rec st fn env).2.store.paths = st.store.paths

section frame
variable {α : Type} (φ : PStore → α) (hφ : ∀ S k v, φ (S.storeBlob k v) = φ S)
  {rec : RunRec} (hrec : ∀ st fn env, φ (rec st fn env).2.store = φ st.store)
include hφ hrec

theorem keepExec_frame (rq : List (String × Sg)) (st : XSt) (path : String) (g : Fn) (env : Env) :
    φ (keepExec rq rec st path g env).2.store = φ st.store := by
  rw [keepExec_eq]
  split
  · rfl
  · split
    · rfl
    · exact andThen_frame (φ := fun st : XSt => φ st.store) (hrec st g env) fun _ _ => hφ _ _ _

theorem runCall_frame (W : World) (rq : List (String × Sg)) (st : XSt) (f : String) (pos : List RVal)
    (kw : List (String × RVal)) (kp : Option String) : φ (runCall W rq rec st f pos kw kp).2.store = φ st.store := by
  unfold runCall
  split
  · rfl
  · split
    · rfl
    · rw [runCall_kept]
      split
      · exact keepExec_frame φ hφ hrec rq st _ _ _
      · exact hrec st _ _

theorem runItemRes_frame (W : World) (rq : List (String × Sg)) (env : Env) (st : XSt) (results : List RVal) (it : Item) :
    φ (runItemRes W rq rec env st results it).2.store = φ st.store := by
  cases it with
  | load path l => rw [runItemRes_load_snd]
  | evalCall f l => rfl
  | _ => exact runCall_frame φ hφ hrec W rq st _ _ _ _

theorem runItems_frame (W : World) (rq : List (String × Sg)) (fn : Fn) (env : Env) (its : List Item) :
    ∀ (st : XSt) (results : List RVal), φ (runItems W (some rq) rec fn env st results its).2.store = φ st.store := by
  induction its with
  | nil => exact fun _ _ => rfl
  | cons it its ih =>
    intro st results
    rw [runItems_step]
    exact andThen_frame (φ := fun st : XSt => φ st.store) (runItemRes_frame φ hφ hrec W rq env st results it)
      fun _ st' => ih st' _

end frame

theorem runFn_frame {α : Type} (φ : PStore → α) (hφ : ∀ S k v, φ (S.storeBlob k v) = φ S) (W : World)
    (rq : List (String × Sg)) (fuel : Nat) : ∀ st fn env, φ (runFn W rq fuel st fn env).2.store = φ st.store := by
  induction fuel with
  | zero => exact fun _ _ _ => rfl
  | succ fuel ih =>
    intro st fn env
    rw [runFn_step]
    exact andThen_frame (φ := fun st : XSt => φ st.store) (runItems_frame φ hφ ih W rq fn env fn.items _ _)
      fun _ _ => by cases fn.fails <;> rfl

theorem runFn_paths (W : World) (requested : List (String × Sg)) : ∀ fuel, PathsFrame (runFn W requested fuel) :=
  runFn_frame PStore.paths storeBlob_paths' W requested

theorem runFn_noop (W : World) (rq : List (String × Sg)) (fuel : Nat) (st : XSt) (fn : Fn) (env : Env) :
    (runFn W rq fuel st fn env).2.store.noop = st.store.noop :=
  runFn_frame PStore.noop storeBlob_noop W rq fuel st fn env

/-! ## Plain execution -/

/-- the result of one item under plain execution (the `let r` of `plainItems`) -/
def plainItemRes (W : World) (rec : PlainRec) (env : Env) (st : PSt) (results : List RVal) : Item → PRes
  | .call f _ | .ref f _ =>
    match W.find f with
    | none => (.error (.dds .objectNotFound), st)
    | some g => match bindRun g.params [] [] 0 with
      | none => (.error (.exc "TypeError" f), st)
      | some env' =>
        match rec st g env' with
        | (.ok v, st') => (.ok v, match g.storePath with
            | some p => { st' with kept := aset st'.kept p v }
            | none => st')
        | r => r
  | .callArgs f args kwargs rtA rtK _ =>
    match W.find f with
    | none => (.error (.dds .objectNotFound), st)
    | some g => match bindRun g.params (zipArgs results env args rtA) (zipKw results env kwargs rtK) 0 with
      | none => (.error (.exc "TypeError" f), st)
      | some env' =>
        match rec st g env' with
        | (.ok v, st') => (.ok v, match g.storePath with
            | some p => { st' with kept := aset st'.kept p v }
            | none => st')
        | r => r
  | .keep path f args kwargs rtA rtK _ =>
    match W.find f with
    | none => (.error (.dds .objectNotFound), st)
    | some g => match bindRun g.params (zipArgs results env args rtA) (zipKw results env kwargs rtK) 0 with
      | none => (.error (.exc "TypeError" f), st)
      | some env' =>
        match rec st g env' with
        | (.ok v, st') => (.ok v, { st' with kept := aset st'.kept path v })
        | r => r
  | .load path _ =>
    match aget st.kept path with
    | some v => (.ok v, st)
    | none => (.error (.exc "KeyError" path), st)
  | .evalCall f _ =>
    match W.find f with
    | none => (.error (.dds .objectNotFound), st)
    | some g => match bindRun g.params [] [] 0 with
      | none => (.error (.exc "TypeError" f), st)
      | some env' => rec st g env'

section
variable {W : World} {rec : PlainRec} {env : Env} {st : PSt} {results : List RVal}

theorem plainItemRes_load (path : String) (line : Nat) :
    plainItemRes W rec env st results (.load path line) =
      match aget st.kept path with
      | some v => (.ok v, st)
      | none => (.error (.exc "KeyError" path), st) := rfl

theorem plainItemRes_load_snd (path : String) (line : Nat) :
    (plainItemRes W rec env st results (.load path line)).2 = st := by
  rw [plainItemRes_load]; split <;> rfl

theorem plainItemRes_load_ok {path : String} {line : Nat} {v : RVal} (h : aget st.kept path = some v) :
    plainItemRes W rec env st results (.load path line) = (.ok v, st) := by
  rw [plainItemRes_load, h]

theorem plainItemRes_evalCall (f : String) (line : Nat) :
    plainItemRes W rec env st results (.evalCall f line) =
      match W.find f with
      | none => (.error (.dds .objectNotFound), st)
      | some g => match bindRun g.params [] [] 0 with
        | none => (.error (.exc "TypeError" f), st)
        | some env' => rec st g env' := rfl

end

/-- plain execution of a call: on success the value is kept at `kp` (an explicit keep) or else where the callee is kept -/
def callRes (W : World) (rec : PlainRec) (st : PSt) (f : String) (pos : List RVal) (kw : List (String × RVal))
    (kp : Option String) : PRes :=
  match W.find f with
  | none => (.error (.dds .objectNotFound), st)
  | some g => match bindRun g.params pos kw 0 with
    | none => (.error (.exc "TypeError" f), st)
    | some env' => andThen (rec st g env') fun v st' =>
      (.ok v, match kp.or g.storePath with
        | some p => { st' with kept := aset st'.kept p v }
        | none => st')

section
variable {W : World} {rec : PlainRec} {st : PSt} {f : String} {pos : List RVal} {kw : List (String × RVal)} {kp : Option String}

section
variable {g : Fn} (hfind : W.find f = some g)
include hfind

theorem callRes_bound {env' : Env} (hb : bindRun g.params pos kw 0 = some env') :
    callRes W rec st f pos kw kp = andThen (rec st g env') fun v st' =>
      (.ok v, match kp.or g.storePath with
        | some p => { st' with kept := aset st'.kept p v }
        | none => st') := by
  simp only [callRes, hfind, hb]

theorem callRes_unbound (hb : bindRun g.params pos kw 0 = none) :
    callRes W rec st f pos kw kp = (.error (.exc "TypeError" f), st) := by
  simp only [callRes, hfind, hb]

end

/-- as `plainItems` writes a call, without `andThen` -/
theorem callRes_match :
    callRes W rec st f pos kw kp =
      match W.find f with
      | none => (.error (.dds .objectNotFound), st)
      | some g => match bindRun g.params pos kw 0 with
        | none => (.error (.exc "TypeError" f), st)
        | some env' =>
          match rec st g env' with
          | (.ok v, st') => (.ok v, match kp.or g.storePath with
              | some p => { st' with kept := aset st'.kept p v }
              | none => st')
          | r => r := by
  unfold callRes
  cases W.find f with
  | none => rfl
  | some g =>
    dsimp only
    cases bindRun g.params pos kw 0 with
    | none => rfl
    | some env' =>
      dsimp only
      generalize rec st g env' = r
      obtain ⟨_ | _, _⟩ := r <;> rfl

end

section
variable {W : World} {rec : PlainRec} {env : Env}

theorem plainItemRes_callee {st : PSt} {results : List RVal} (it : Item) {f : String} {args kwargs rtA rtK}
    (h : it.callee = some (f, args, kwargs, rtA, rtK)) :
    plainItemRes W rec env st results it =
      callRes W rec st f (zipArgs results env args rtA) (zipKw results env kwargs rtK) it.keepPath := by
  rw [callRes_match]
  -- `cases h` leaves the four call-like constructors, each with the same code: find, bind, run, keep
  cases it <;> cases h <;> rfl

theorem plainItems_step (st : PSt) (results : List RVal) (it : Item) (its : List Item) :
    plainItems W rec env st results (it :: its) =
      andThen (plainItemRes W rec env st results it) fun v st' => plainItems W rec env st' (results ++ [v]) its := by
  show (match plainItemRes W rec env st results it with
      | (.ok v, st') => plainItems W rec env st' (results ++ [v]) its
      | (.error e, st') => (.error e, st')) = _
  generalize plainItemRes W rec env st results it = r
  obtain ⟨_ | _, _⟩ := r <;> rfl

theorem plainItems_append (pre its : List Item) (p0 : PSt) (acc : List RVal) :
    plainItems W rec env p0 acc (pre ++ its) =
      andThen (plainItems W rec env p0 acc pre) fun results q => plainItems W rec env q results its := by
  induction pre generalizing p0 acc with
  | nil => rfl
  | cons a pre ih =>
    rw [cons_append, plainItems_step, plainItems_step]
    generalize plainItemRes W rec env p0 acc a = r
    obtain ⟨_ | w, st'⟩ := r
    · rfl
    · exact ih st' _

theorem plainItems_snoc {pre : List Item} {p0 q q' : PSt} {acc results : List RVal} {it : Item} {v : RVal}
    (h1 : plainItems W rec env p0 acc pre = (.ok results, q))
    (h2 : plainItemRes W rec env q results it = (.ok v, q')) :
    plainItems W rec env p0 acc (pre ++ [it]) = (.ok (results ++ [v]), q') := by
  rw [plainItems_append, h1]
  show plainItems W rec env q results [it] = _
  rw [plainItems_step, h2]
  rfl

end

theorem plainFn_step (W : World) (fuel : Nat) (st : PSt) (fn : Fn) (env : Env) :
    plainFn W (fuel + 1) st fn env =
      andThen (plainItems W (plainFn W fuel) env { st with log := st.log ++ [fn.name] } [] fn.items)
        fun results st' => match fn.fails with
          | some kind => (.error (.exc kind fn.name), st')
          | none => (.ok (bodyValue W fn env results), st') := by
  simp only [plainFn]
  generalize plainItems W (plainFn W fuel) env { st with log := st.log ++ [fn.name] } [] fn.items = r
  obtain ⟨_ | _, _⟩ := r <;> rfl

/-- the value part of a call-like item: `find`, bind, run -/
def callVal (W : World) (rec : PlainRec) (st : PSt) (f : String) (pos : List RVal) (kw : List (String × RVal)) :
    Except XErr RVal :=
  match W.find f with
  | none => .error (.dds .objectNotFound)
  | some g => match bindRun g.params pos kw 0 with
    | none => .error (.exc "TypeError" f)
    | some env' => (rec st g env').1

theorem callRes_val (W : World) (rec : PlainRec) (st : PSt) (f : String) (pos : List RVal) (kw : List (String × RVal))
    (kp : Option String) : (callRes W rec st f pos kw kp).1 = callVal W rec st f pos kw := by
  unfold callRes callVal
  cases W.find f with
  | none => rfl
  | some g =>
    dsimp only
    cases bindRun g.params pos kw 0 with
    | none => rfl
    | some env' =>
      dsimp only
      generalize rec st g env' = r
      obtain ⟨_ | _, _⟩ := r <;> rfl

theorem plainItemRes_call (W : World) (rec : PlainRec) (env : Env) (st : PSt) (results : List RVal) (f : String) (l : Nat) :
    (plainItemRes W rec env st results (.call f l)).1 = callVal W rec st f [] [] := by
  rw [plainItemRes_callee (.call f l) rfl]; exact callRes_val ..

theorem plainItemRes_ref (W : World) (rec : PlainRec) (env : Env) (st : PSt) (results : List RVal) (f : String) (l : Nat) :
    (plainItemRes W rec env st results (.ref f l)).1 = callVal W rec st f [] [] := by
  rw [plainItemRes_callee (.ref f l) rfl]; exact callRes_val ..

theorem plainItemRes_callArgs (W : World) (rec : PlainRec) (env : Env) (st : PSt) (results : List RVal) (f : String)
    (args kwargs rtA rtK) (l : Nat) :
    (plainItemRes W rec env st results (.callArgs f args kwargs rtA rtK l)).1 =
      callVal W rec st f (zipArgs results env args rtA) (zipKw results env kwargs rtK) := by
  rw [plainItemRes_callee (.callArgs f args kwargs rtA rtK l) rfl]; exact callRes_val ..

theorem plainItemRes_keep (W : World) (rec : PlainRec) (env : Env) (st : PSt) (results : List RVal) (path f : String)
    (args kwargs rtA rtK) (l : Nat) :
    (plainItemRes W rec env st results (.keep path f args kwargs rtA rtK l)).1 =
      callVal W rec st f (zipArgs results env args rtA) (zipKw results env kwargs rtK) := by
  rw [plainItemRes_callee (.keep path f args kwargs rtA rtK l) rfl]; exact callRes_val ..

end Dds
