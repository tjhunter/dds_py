import DdsProofs.AnalyseInv
import DdsProofs.SigInj
/-!
# A signature determines the plain value (`sig_sound`, code part)

Why a stored blob may be served (C01). The idea: the signature determines the text, hence the code (`sig_code`), and
the signatures of the calls below in order, so the two analyses went through the same items in lock step (`LockStep`),
callee by callee with equal signatures. What equal signatures give at one level — equal values here, trees of the same
shape in `Shape.lean` — then follows by induction over the lock step, with the induction on the nesting depth for the
callees.

`sig_sound` takes the parameter values as given: one `env` for both calls. That equal signatures also force equal
parameter values is `env_sound`; `sig_sound_full` (`EnvSound.lean`) puts the two together, and `C01.sig_sound` is
`sig_sound_full` under the name of the property.
-/
namespace Dds
open List

/-- what the source text of a function determines -/
structure Code where
  name : String
  params : List Param
  storePath : Option String
  tag : String
  items : List Item
  fails : Option String
  usesExt : Bool
  ws : Option Bool
  varNames : List String

def Fn.code (f : Fn) : Code :=
  ⟨f.name, f.params, f.storePath, f.tag, f.items, f.fails, f.usesExt, f.ws, f.vars.map Prod.fst⟩

/-- the function versions the theorems talk about, and what is assumed of them -/
structure Universe where
  fns : Fn → Prop
  /-- the values of tracked variables that occur -/
  vals : PyVal → Prop
  /-- the argument values that occur: literals at calls, defaults, arguments of entry calls -/
  avals : PyVal → Prop
  /-- two versions with the same lines are the same program: a property of Python (the text *is* the program) and of the
  generator's renderer; the harness checks it on every generated version -/
  faithful : ∀ f g, fns f → fns g → f.lines = g.lines → f.code = g.code
  /-- `dds_hash` is injective on the values that occur, variables and arguments apart (a variable is never compared with an
  argument). C05 proves exactly which values collide (`collide_iff`); the generator's pools are collision-free -/
  varsInj : ∀ v w, vals v → vals w → canonKF v = canonKF w → v = w
  argsInj : ∀ v w, avals v → avals w → canonKF v = canonKF w → v = w
  varsIn : ∀ f, fns f → ∀ nv ∈ f.vars, vals nv.2
  varNames : ∀ f, fns f → (f.vars.map Prod.fst).Nodup
  /-- no nested `dds.eval` (such programs are rejected by the analysis anyway: C11) -/
  noEval : ∀ f, fns f → ∀ it ∈ f.items, ¬ it.isEval
  constsIn : ∀ f, fns f → ∀ it ∈ f.items, ∀ v, it.hasConst v → avals v
  defaultsIn : ∀ f, fns f → ∀ p ∈ f.params, ∀ d, p.default = some d → avals d
  plainParams : ∀ f, fns f → plainParams f.params = true
  paramNames : ∀ f, fns f → (f.params.map Param.name).Nodup
  /-- the key `arg_context` is reserved -/
  noCtxParam : ∀ f, fns f → ∀ p ∈ f.params, p.name ≠ "context"
  /-- one call per line -/
  sorted : ∀ f, fns f → f.items.Pairwise (fun a b => a.line < b.line)
  lineBound : ∀ f, fns f → ∀ it ∈ f.items, it.line < f.lines.length
  /-- the text up to a line determines the parameters and the calls up to that line; used at the line of a call only
  (`Universe.prefix_eq`), where the context signature hashes the text up to that call -/
  prefixFaithful : ∀ f g n, fns f → fns g → f.lines.take (n + 1) = g.lines.take (n + 1) →
    f.params = g.params ∧ f.items.filter (fun it => it.line ≤ n) = g.items.filter (fun it => it.line ≤ n)

def Universe.world (U : Universe) (W : World) : Prop := ∀ f ∈ W.funs, U.fns f

theorem Universe.find {U : Universe} {W : World} (hW : U.world W) {n : String} {g : Fn} (h : W.find n = some g) :
    U.fns g := hW g (List.mem_of_find?_eq_some h)

/-! ## Hash injectivity on source lines and on variable values -/

theorem hashLines_inj {m : Nat} {a b : List String} {s : Sg}
    (ha : hashLines m a = .ok s) (hb : hashLines m b = .ok s) : a = b := by
  have := mkSeq_inj (ddsHash_inj (liftH_ok ha) (liftH_ok hb))
  rw [canonKFL_eq_map, canonKFL_eq_map, map_map, map_map] at this
  exact (map_inj_right fun x y e => utf8_inj (CVal.atom.inj e)).mp this

section
variable {m : Nat} {vs : List (String × PyVal)} {ev : List (String × Sg)}

theorem hashVars_cons {n : String} {v : PyVal}
    (h : hashVars m ((n, v) :: vs) = .ok ev) : ∃ hv r, ddsHash m v = .ok hv ∧ hashVars m vs = .ok r ∧ ev = (n, hv) :: r := by
  obtain ⟨hv, e, h⟩ := bind_ok h
  obtain ⟨r, hr, h⟩ := bind_ok h
  exact ⟨hv, r, liftH_ok e, hr, (Except.ok.inj h).symm⟩

theorem hashVars_names (h : hashVars m vs = .ok ev) :
    ev.map Prod.fst = vs.map Prod.fst := by
  induction vs generalizing ev with
  | nil => cases h; rfl
  | cons nv vs ih =>
    obtain ⟨_, r, _, hr, rfl⟩ := hashVars_cons h
    exact congrArg (_ :: ·) (ih hr)

theorem hashVars_inj (U : Universe) {ws : List (String × PyVal)}
    (h1 : hashVars m vs = .ok ev) (h2 : hashVars m ws = .ok ev) (hv : ∀ nv ∈ vs, U.vals nv.2) (hw : ∀ nv ∈ ws, U.vals nv.2) :
    vs = ws := by
  induction vs generalizing ws ev with
  | nil => cases h1; cases ws with
    | nil => rfl
    | cons _ _ => obtain ⟨_, _, _, _, e⟩ := hashVars_cons h2; cases e
  | cons nv vs ih =>
    obtain ⟨n, v⟩ := nv
    obtain ⟨_, r, e1, hr1, rfl⟩ := hashVars_cons h1
    cases ws with
    | nil => cases h2
    | cons nw ws =>
      obtain ⟨n', w⟩ := nw
      obtain ⟨_, _, e2, hr2, e⟩ := hashVars_cons h2
      cases e
      rw [U.varsInj v w (hv _ mem_cons_self) (hw _ mem_cons_self) (ddsHash_inj e1 e2),
        ih hr1 hr2 (fun nv h => hv nv (mem_cons_of_mem _ h)) fun nv h => hw nv (mem_cons_of_mem _ h)]

theorem vars_eq (U : Universe) {ws : List (String × PyVal)} {ew : List (String × Sg)}
    (h1 : hashVars m vs = .ok ev) (h2 : hashVars m ws = .ok ew) (hn : vs.map Prod.fst = ws.map Prod.fst)
    (hnd : (vs.map Prod.fst).Nodup) (hv : ∀ nv ∈ vs, U.vals nv.2) (hw : ∀ nv ∈ ws, U.vals nv.2)
    (hmem : ∀ l s, (l, s) ∈ ev ↔ (l, s) ∈ ew) : vs = ws := by
  have : ev = ew := eq_of_subset_of_keys_eq (fun x hx => (hmem x.1 x.2).mp hx)
    (by rw [hashVars_names h1, hashVars_names h2, hn]) (by unfold KeysNodup; rwa [hashVars_names h1])
  subst this
  exact hashVars_inj U h1 h2 hv hw

end

theorem buildReturnSig_argPairs {b : Option Sg} {a : ArgCtx} {deps : List (String × Sg)} {subs : List Sg}
    {ed : List (String × String)} {ev : List (String × Sg)} {r : Option Sg}
    (h : buildReturnSig b a deps subs ed ev = .ok r) : ∃ pa, argPairs a = .ok pa := by
  unfold buildReturnSig at h
  obtain ⟨pa, hpa, _⟩ := bind_ok h
  exact ⟨pa, hpa⟩

/-! ## Two analyses in lock step -/

section
variable {m : Nat} {W1 W2 : World} {rec1 rec2 : Analyse} {fn1 fn2 : Fn} {isig1 isig2 : Sg} {stack1 stack2 : List String}

variable (m W1 W2 rec1 rec2) in
/-- two walks of the visitor over the same items, in two worlds, that go the same way item by item: both record a load, both
pass a reference already met in the body, or both analyse the callee, and give it the same signature. Whose body the items
are (function, input signature, stack) is left open at each call: what follows looks at the callees only -/
inductive LockStep : VisitSt → VisitSt → List Item → VisitSt → VisitSt → Prop
  | nil (s1 s2 : VisitSt) : LockStep s1 s2 [] s1 s2
  | load {s1 s2 s1' s2' : VisitSt} {its : List Item} (path : String) (line : Nat) :
      LockStep { s1 with loads := s1.loads ++ [path] } { s2 with loads := s2.loads ++ [path] } its s1' s2' →
      LockStep s1 s2 (.load path line :: its) s1' s2'
  | seen {s1 s2 s1' s2' : VisitSt} {its : List Item} (f : String) (line : Nat) : f ∈ s1.seen →
      LockStep s1 s2 its s1' s2' → LockStep s1 s2 (.ref f line :: its) s1' s2'
  | call {fn1 fn2 : Fn} {isig1 isig2 : Sg} {stack1 stack2 : List String} {s1 s2 s1' s2' : VisitSt} {it : Item}
      {its : List Item} {f : String} {args kwargs rtA rtK} {g1 g2 : Fn} {c1 c2 : Option Sg}
      {n1 n2 : List (String × Option Sg)} {a b : FIS} {rf1 rf2 : Refs} :
      it.callee = some (f, args, kwargs, rtA, rtK) →
      CallStep m W1 rec1 fn1 isig1 stack1 s1 f args kwargs it.line g1 c1 n1 a rf1 →
      CallStep m W2 rec2 fn2 isig2 stack2 s2 f args kwargs it.line g2 c2 n2 b rf2 → a.retSig = b.retSig →
      LockStep (s1.afterCall it f a rf1) (s2.afterCall it f b rf2) its s1' s2' → LockStep s1 s2 (it :: its) s1' s2'

theorem lockStep_of_visit {its : List Item} {s1 s2 s1' s2' : VisitSt}
    (h1 : visitItems m W1 rec1 fn1 isig1 stack1 s1 its = .ok s1') (h2 : visitItems m W2 rec2 fn2 isig2 stack2 s2 its = .ok s2')
    (hlen : s1.inters.length = s2.inters.length) (hseen : s1.seen = s2.seen)
    (hfin : s1'.inters.map FIS.retSig = s2'.inters.map FIS.retSig) :
    LockStep m W1 W2 rec1 rec2 s1 s2 its s1' s2' := by
  induction its generalizing s1 s2 with
  | nil => cases h1; cases h2; exact .nil _ _
  | cons it its ih =>
    obtain ⟨t1, hv1, hr1⟩ := visitItems_cons_inv h1
    obtain ⟨t2, hv2, hr2⟩ := visitItems_cons_inv h2
    cases visitItem_inv hv1 with
    | load path line =>
      cases (visitItem_inv hv2).of_load
      exact .load path line (ih hr1 hr2 hlen hseen)
    | seen f line hin =>
      cases (visitItem_inv hv2).of_seen (hseen ▸ hin)
      exact .seen f line hin (ih hr1 hr2 hlen hseen)
    | call hc hnew hc1 =>
      obtain ⟨g2, c2, n2, b, rf2, hc2, rfl⟩ := (visitItem_inv hv2).of_call hc (hseen ▸ hnew)
      refine .call hc hc1 hc2 ?_
        (ih hr1 hr2 (by simp only [VisitSt.afterCall, length_append, length_singleton, hlen])
          (by simp only [VisitSt.afterCall, hseen]))
      -- each final list is the list so far, then the node of this call, then the rest; the lists so far are equally long
      obtain ⟨d1, e1⟩ := visitItems_grows hr1
      obtain ⟨d2, e2⟩ := visitItems_grows hr2
      rw [e1, e2] at hfin
      simp only [VisitSt.afterCall, map_append, map_cons, append_assoc, singleton_append, FIS.kept_retSig] at hfin
      exact (cons.inj (append_inj hfin (by rw [length_map, length_map, hlen])).2).1

theorem LockStep.sub {s1 s2 s1' s2' : VisitSt} {its : List Item}
    (L : LockStep m W1 W2 rec1 rec2 s1 s2 its s1' s2') :
    s1.loads ⊆ s1'.loads ∧ s1.inters ⊆ s1'.inters := by
  induction L with
  | nil => exact ⟨Subset.refl _, Subset.refl _⟩
  | load _ _ _ ih => exact ⟨fun _ hp => ih.1 (mem_append_left _ hp), ih.2⟩
  | seen _ _ _ _ ih => exact ih
  | call _ _ _ _ _ ih => exact ⟨ih.1, fun _ hf => ih.2 (mem_append_left _ hf)⟩

theorem sig_code (U : Universe) {fuel1 fuel2 : Nat} {refs1 refs2 : Refs}
    {ctx1 ctx2 : ArgCtx} {fis1 fis2 : FIS} {r1 r2 : Refs}
    {ev1 ev2 : List (String × Sg)} {io1 io2 : Option Sg} {st1 st2 : VisitSt} {b1 b2 : Sg}
    {d1 d2 : List (String × Sg)} {ret1 ret2 : Sg}
    (h1 : AnalyseOk m W1 fuel1 refs1 stack1 fn1 ctx1 fis1 r1 ev1 io1 st1 b1 d1 ret1)
    (h2 : AnalyseOk m W2 fuel2 refs2 stack2 fn2 ctx2 fis2 r2 ev2 io2 st2 b2 d2 ret2)
    (hU1 : U.fns fn1) (hU2 : U.fns fn2) (hs : fis1.retSig = fis2.retSig) :
    fn1.code = fn2.code ∧ fn1.vars = fn2.vars ∧
    (∃ pa1 pa2, argPairs ctx1 = .ok pa1 ∧ argPairs ctx2 = .ok pa2 ∧ pa1 ~ pa2) ∧ (∀ p s, (p, s) ∈ d1 ↔ (p, s) ∈ d2) ∧
    LockStep m W1 W2 (analyse m W1 fuel1) (analyse m W2 fuel2) { refs := refs1 } { refs := refs2 } fn1.items st1 st2 := by
  rw [h1.retSig, h2.retSig] at hs
  subst hs
  obtain ⟨pa1, hpa1⟩ := buildReturnSig_argPairs h1.hret
  obtain ⟨pa2, hpa2⟩ := buildReturnSig_argPairs h2.hret
  obtain ⟨hb, hargs, hdeps, hsubs, _, hev⟩ := buildReturnSig_inj _ _ _ _ _ _ _ _ _ _ _ _ _ _ hpa1 hpa2
    (h1.hret.trans h2.hret.symm)
  cases hb
  have hcode := U.faithful fn1 fn2 hU1 hU2 (hashLines_inj h1.hbody h2.hbody)
  have hnames : fn1.vars.map Prod.fst = fn2.vars.map Prod.fst := congrArg Code.varNames hcode
  have hitems : fn1.items = fn2.items := congrArg Code.items hcode
  exact ⟨hcode, vars_eq U h1.hvars h2.hvars hnames (U.varNames fn1 hU1) (U.varsIn fn1 hU1) (U.varsIn fn2 hU2) hev,
    ⟨pa1, pa2, hpa1, hpa2, hargs⟩, hdeps, lockStep_of_visit h1.hvisit (hitems ▸ h2.hvisit) rfl rfl hsubs⟩

end

/-! ## Agreement of two plain states on the loaded paths -/

def KAgree (G : List String) (q1 q2 : PSt) : Prop := ∀ p ∈ G, aget q1.kept p = aget q2.kept p

def KeptPres (q1 q2 r1 r2 : PSt) : Prop := ∀ p, aget q1.kept p = aget q2.kept p → aget r1.kept p = aget r2.kept p

theorem KeptPres.refl (q1 q2 : PSt) : KeptPres q1 q2 q1 q2 := fun _ h => h
theorem KeptPres.trans {a1 a2 b1 b2 c1 c2 : PSt} (h1 : KeptPres a1 a2 b1 b2) (h2 : KeptPres b1 b2 c1 c2) :
    KeptPres a1 a2 c1 c2 := fun p h => h2 p (h1 p h)
theorem KeptPres.agree {G : List String} {q1 q2 r1 r2 : PSt} (h : KeptPres q1 q2 r1 r2) (ha : KAgree G q1 q2) :
    KAgree G r1 r2 := fun p hp => h p (ha p hp)
theorem KeptPres.log {q1 q2 r1 r2 : PSt} (h : KeptPres q1 q2 r1 r2) (l1 l2 : List String) :
    KeptPres { q1 with log := l1 } { q2 with log := l2 } r1 r2 := h

theorem KeptPres.aset {q1 q2 r1 r2 : PSt} (h : KeptPres q1 q2 r1 r2) (p : String) (v : RVal) :
    KeptPres q1 q2 { r1 with kept := aset r1.kept p v } { r2 with kept := aset r2.kept p v } := by
  intro x hx
  rw [aget_aset, aget_aset, h x hx]

/-- the statement of `sig_sound` for analyses of nesting depth at most `fuel1` in the first world. A body may `dds.load`: the
two executions start from plain states that agree on the paths the call (transitively) loads, and go on agreeing wherever
they did (`KeptPres`), so a path produced and then loaded is covered -/
def SS (U : Universe) (m : Nat) (fuel1 : Nat) : Prop :=
  ∀ (fuel2 : Nat) (W1 W2 : World) (refs1 refs2 : Refs) (stack1 stack2 : List String) (fn1 fn2 : Fn)
    (ctx1 ctx2 : ArgCtx) (env : Env) (fis1 fis2 : FIS) (r1 r2 : Refs) (p1 p2 : PSt),
    U.world W1 → U.world W2 → W1.extVersion = W2.extVersion → U.fns fn1 → U.fns fn2 →
    analyse m W1 fuel1 refs1 stack1 fn1 ctx1 = .ok (fis1, r1) →
    analyse m W2 fuel2 refs2 stack2 fn2 ctx2 = .ok (fis2, r2) →
    fis1.retSig = fis2.retSig → KAgree fis1.allLoads p1 p2 →
    (plainFn W1 fuel1 p1 fn1 env).1 = (plainFn W2 fuel2 p2 fn2 env).1 ∧
    (∀ v, (plainFn W1 fuel1 p1 fn1 env).1 = .ok v →
      KeptPres p1 p2 (plainFn W1 fuel1 p1 fn1 env).2 (plainFn W2 fuel2 p2 fn2 env).2)

section
variable (U : Universe) {m : Nat} {W1 W2 : World} {fuel1 fuel2 : Nat}

theorem sig_call {refs1 refs2 : Refs}
    {stack1 stack2 : List String} {fn1 fn2 : Fn} {ctx1 ctx2 : ArgCtx} {fis1 fis2 : FIS} {r1 r2 : Refs}
    (h1 : analyse m W1 fuel1 refs1 stack1 fn1 ctx1 = .ok (fis1, r1))
    (h2 : analyse m W2 fuel2 refs2 stack2 fn2 ctx2 = .ok (fis2, r2))
    (hU1 : U.fns fn1) (hU2 : U.fns fn2) (hs : fis1.retSig = fis2.retSig) :
    fn1.code = fn2.code ∧ ∃ pa1 pa2, argPairs ctx1 = .ok pa1 ∧ argPairs ctx2 = .ok pa2 ∧ pa1 ~ pa2 := by
  obtain ⟨_, _, _, _, _, _, _, rfl, a1⟩ := analyse_ok h1
  obtain ⟨_, _, _, _, _, _, _, rfl, a2⟩ := analyse_ok h2
  have := sig_code U a1 a2 hU1 hU2 hs
  exact ⟨this.1, this.2.2.1⟩

/-- the conclusion of `SS`, for any step of plain execution from the states `q1`, `q2` -/
def ResEq {α : Type} (q1 q2 : PSt) (r1 r2 : Except XErr α × PSt) : Prop :=
  r1.1 = r2.1 ∧ ∀ v, r1.1 = .ok v → KeptPres q1 q2 r1.2 r2.2

theorem ResEq.same {α : Type} (q1 q2 : PSt) (r : Except XErr α) : ResEq q1 q2 (r, q1) (r, q2) :=
  ⟨rfl, fun _ _ => KeptPres.refl q1 q2⟩

theorem ResEq.andThen {α β : Type} {q1 q2 : PSt} {r1 r2 : Except XErr α × PSt} {k1 k2 : α → PSt → Except XErr β × PSt}
    (h : ResEq q1 q2 r1 r2)
    (hk : ∀ v, r1.1 = .ok v → KeptPres q1 q2 r1.2 r2.2 → ResEq r1.2 r2.2 (k1 v r1.2) (k2 v r2.2)) :
    ResEq q1 q2 (andThen r1 k1) (andThen r2 k2) := by
  obtain ⟨v1, a1⟩ := r1
  obtain ⟨v2, a2⟩ := r2
  obtain ⟨rfl, hp⟩ := h
  cases v1 with
  | error e => exact ⟨rfl, fun _ h => nomatch h⟩
  | ok v =>
    have := hk v rfl (hp v rfl)
    exact ⟨this.1, fun w hw => (hp v rfl).trans (this.2 w hw)⟩

theorem callRes_eq (hSS : SS U m fuel1)
    (hW1 : U.world W1) (hW2 : U.world W2) (hext : W1.extVersion = W2.extVersion)
    {f : String} {g1 g2 : Fn} {refs1 refs2 : Refs} {stack1 stack2 : List String} {ctx1 ctx2 : ArgCtx} {a b : FIS}
    {rf1 rf2 : Refs} (hf1 : W1.find f = some g1) (hf2 : W2.find f = some g2)
    (ha1 : analyse m W1 fuel1 refs1 stack1 g1 ctx1 = .ok (a, rf1))
    (ha2 : analyse m W2 fuel2 refs2 stack2 g2 ctx2 = .ok (b, rf2)) (hs : a.retSig = b.retSig)
    (pos : List RVal) (kw : List (String × RVal)) (kp : Option String) (q1 q2 : PSt) (hag : KAgree a.allLoads q1 q2) :
    ResEq q1 q2 (callRes W1 (plainFn W1 fuel1) q1 f pos kw kp) (callRes W2 (plainFn W2 fuel2) q2 f pos kw kp) := by
  have hU1 := U.find hW1 hf1
  have hU2 := U.find hW2 hf2
  have hcode := (sig_call U ha1 ha2 hU1 hU2 hs).1
  have hpar : g1.params = g2.params := congrArg Code.params hcode
  have hsp : g1.storePath = g2.storePath := congrArg Code.storePath hcode
  cases hb : bindRun g2.params pos kw 0 with
  | none =>
    rw [callRes_unbound hf1 (hpar ▸ hb), callRes_unbound hf2 hb]
    exact .same ..
  | some env' =>
    rw [callRes_bound hf1 (hpar ▸ hb), callRes_bound hf2 hb, hsp]
    refine ResEq.andThen (hSS fuel2 W1 W2 _ _ _ _ g1 g2 _ _ env' a b _ _ q1 q2 hW1 hW2 hext hU1 hU2 ha1 ha2 hs hag)
      fun v _ _ => ⟨rfl, fun _ _ => ?_⟩
    cases kp.or g2.storePath with
    | none => exact KeptPres.refl _ _
    | some p => exact (KeptPres.refl _ _).aset p v

/-- the functions already referenced by name in this body: same value in both worlds from any two states that agree on `G` -/
def SeenVal (W1 W2 : World) (rec1 rec2 : PlainRec) (G : List String) (seen : List String) : Prop :=
  ∀ f ∈ seen, ∀ q1 q2, KAgree G q1 q2 → ResEq q1 q2 (callRes W1 rec1 q1 f [] [] none) (callRes W2 rec2 q2 f [] [] none)

theorem LockStep.values (hSS : SS U m fuel1)
    (hW1 : U.world W1) (hW2 : U.world W2) (hext : W1.extVersion = W2.extVersion)
    (env : Env) (G : List String) {its : List Item} {s1 s2 s1' s2' : VisitSt}
    (L : LockStep m W1 W2 (analyse m W1 fuel1) (analyse m W2 fuel2) s1 s2 its s1' s2')
    (hGl : ∀ p ∈ s1'.loads, p ∈ G) (hGt : ∀ p ∈ FIS.allLoadsL s1'.inters, p ∈ G) :
    SeenVal W1 W2 (plainFn W1 fuel1) (plainFn W2 fuel2) G s1.seen → ∀ (results : List RVal) (q1 q2 : PSt), KAgree G q1 q2 →
      ResEq q1 q2 (plainItems W1 (plainFn W1 fuel1) env q1 results its) (plainItems W2 (plainFn W2 fuel2) env q2 results its) := by
  induction L with
  | nil => exact fun _ _ q1 q2 _ => .same ..
  | load path line rest ih =>
    intro hsv results q1 q2 hag
    rw [plainItems_step, plainItems_step, plainItemRes_load, plainItemRes_load,
      hag path (hGl path (rest.sub.1 (mem_append_right _ mem_cons_self)))]
    refine ResEq.andThen ?_ fun v _ hp => ih hGl hGt hsv _ _ _ (hp.agree hag)
    cases aget q2.kept path <;> exact .same ..
  | seen f line hin _ ih =>
    intro hsv results q1 q2 hag
    rw [plainItems_step, plainItems_step, plainItemRes_callee (.ref f line) rfl, plainItemRes_callee (.ref f line) rfl]
    exact (hsv f hin q1 q2 hag).andThen fun v _ hp => ih hGl hGt hsv _ _ _ (hp.agree hag)
  | call hc hc1 hc2 hsig rest ih =>
    intro hsv results q1 q2 hag
    rw [plainItems_step, plainItems_step, plainItemRes_callee _ hc, plainItemRes_callee _ hc]
    have hcall := fun pos kw kp (a1 a2 : PSt) (ha : KAgree G a1 a2) =>
      callRes_eq U hSS hW1 hW2 hext hc1.find hc2.find hc1.sub hc2.sub hsig pos kw kp a1 a2 fun p hp =>
        ha p (hGt p (allLoadsL_mem (rest.sub.2 (mem_append_right _ mem_cons_self)) ((kept_allLoads ..).symm ▸ hp)))
    exact (hcall _ _ _ q1 q2 hag).andThen fun v _ hp =>
      ih hGl hGt (forall_seen_afterCall hsv fun _ => hcall [] [] none) _ _ _ (hp.agree hag)

end

theorem body_congr {W1 W2 : World} {fn1 fn2 : Fn} (hc : fn1.code = fn2.code) (hv : fn1.vars = fn2.vars)
    (hext : W1.extVersion = W2.extVersion) (env : Env) (results : List RVal) :
    fn1.fails = fn2.fails ∧ fn1.name = fn2.name ∧ bodyValue W1 fn1 env results = bodyValue W2 fn2 env results := by
  have hp : fn1.params = fn2.params := congrArg Code.params hc
  have ht : fn1.tag = fn2.tag := congrArg Code.tag hc
  have hu : fn1.usesExt = fn2.usesExt := congrArg Code.usesExt hc
  have hw : fn1.ws = fn2.ws := congrArg Code.ws hc
  exact ⟨congrArg Code.fails hc, congrArg Code.name hc, by simp only [bodyValue, hp, ht, hu, hw, hv, hext]⟩

/-- **`sig_sound` (code part).** Two calls — in any two versions of the code from the universe — that the analysis
gives the same return signature, run on the same parameter values from plain states that agree on the paths they load,
return the same value (or raise the same exception) under plain execution. No bound on the size or depth of the programs. -/
theorem sig_sound (U : Universe) (m : Nat) : ∀ fuel1, SS U m fuel1 := by
  intro fuel1
  induction fuel1 with
  | zero =>
    intro fuel2 W1 W2 refs1 refs2 stack1 stack2 fn1 fn2 ctx1 ctx2 env fis1 fis2 r1 r2 p1 p2 _ _ _ _ _ h1
    exact absurd h1 analyse_zero
  | succ k1 ih =>
    intro fuel2 W1 W2 refs1 refs2 stack1 stack2 fn1 fn2 ctx1 ctx2 env fis1 fis2 r1 r2 p1 p2 hW1 hW2 hext hU1 hU2 h1 h2 hs hag
    obtain ⟨ev1, io1, st1, b1, d1, ret1, a1⟩ := analyse_inv h1
    obtain ⟨k2, ev2, io2, st2, b2, d2, ret2, rfl, a2⟩ := analyse_ok h2
    obtain ⟨hcode, hvars, _, _, L⟩ := sig_code U a1 a2 hU1 hU2 hs
    have hitems : fn1.items = fn2.items := congrArg Code.items hcode
    have hls := L.values U ih hW1 hW2 hext env fis1.allLoads a1.loads_sub a1.subLoads_sub
      (fun f hf => nomatch hf) [] { p1 with log := p1.log ++ [fn1.name] } { p2 with log := p2.log ++ [fn2.name] } hag
    rw [plainFn_step, plainFn_step, ← hitems]
    refine ResEq.andThen hls fun rs _ _ => ?_
    obtain ⟨e1, e2, e3⟩ := body_congr hcode hvars hext env rs
    rw [e1, e2, e3]
    cases fn2.fails <;> exact .same ..

end Dds
