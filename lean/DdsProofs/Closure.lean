import DdsProofs.Shape
import DdsProofs.EvalStep
/-!
# The blob set is closed under kept sub-calls (C04 value clause, C02 re-evaluation)

`Closed S`: for every blob of the store, the kept calls below *any* analysed call with that signature have their blobs
too (`Covered`). A successful run under dds on a real store keeps the store closed and covers the tree it ran (`cov_fn`): a
hit is covered because the store is closed, and two calls with one signature keep the same calls (`sig_shape`). So after a
successful evaluation every requested path has its blob, and a run over a covered tree writes nothing (`hit_fn`).
-/
namespace Dds
open List

/-! ## Closed stores -/

theorem sgGet_storeBlob_self (S : PStore) (k : Sg) (v : RVal) (h : S.noop = false) :
    sgGet (S.storeBlob k v).blobs k = some v := by
  rw [sgGet_storeBlob_eq, if_pos ⟨h, rfl⟩]

def BlobGrows (S S' : PStore) : Prop := ∀ k, (sgGet S.blobs k).isSome = true → (sgGet S'.blobs k).isSome = true

theorem BlobGrows.refl (S : PStore) : BlobGrows S S := fun _ h => h
theorem BlobGrows.trans {A B C : PStore} (h1 : BlobGrows A B) (h2 : BlobGrows B C) : BlobGrows A C := fun k h => h2 k (h1 k h)

theorem grows_storeBlob (S : PStore) (k : Sg) (v : RVal) : BlobGrows S (S.storeBlob k v) := by
  intro k' h
  rw [sgGet_storeBlob_eq]
  split
  · rfl
  · exact h

def Closed (U : Universe) (m : Nat) (S : PStore) : Prop :=
  ∀ k, (sgGet S.blobs k).isSome = true →
    ∀ (W : World) (fn : Fn) (ctx : ArgCtx) (fuel : Nat) (refs : Refs) (stack : List String) (fis : FIS) (r : Refs),
      U.world W → U.fns fn → analyse m W fuel refs stack fn ctx = .ok (fis, r) → fis.retSig = k →
      CoveredL S.blobs fis.subs

theorem Closed.of_blobs {U : Universe} {m : Nat} {S S' : PStore} (h : S'.blobs = S.blobs) (hC : Closed U m S) : Closed U m S' :=
  fun k hk => h ▸ hC k (h ▸ hk)

theorem CoveredL.of_sig {U : Universe} {m : Nat} {bl : List (Sg × RVal)} {W W' : World} {fn fn' : Fn} {ctx ctx' : ArgCtx}
    {fuel fuel' : Nat} {refs refs' : Refs} {stack stack' : List String} {fis fis' : FIS} {r r' : Refs}
    (hc : CoveredL bl fis.subs) (hW : U.world W) (hW' : U.world W') (hU : U.fns fn) (hU' : U.fns fn')
    (ha : analyse m W fuel refs stack fn ctx = .ok (fis, r)) (ha' : analyse m W' fuel' refs' stack' fn' ctx' = .ok (fis', r'))
    (hs : fis.retSig = fis'.retSig) : CoveredL bl fis'.subs :=
  CoveredL.shape _ _ ((sameShape_iff _ _).mp
    (sig_shape U m fuel fuel' W W' _ _ _ _ fn fn' _ _ fis fis' _ _ hW hW' hU hU' ha ha' hs)).2.2.2 hc

/-- `pathsOK_kept` for `Covered` -/
theorem covered_kept {m : Nat} {W : World} {fuel : Nat} {refs : Refs} {stack : List String} {g : Fn} {ctx : ArgCtx}
    {fis : FIS} {rf : Refs} (ha : analyse m W fuel refs stack g ctx = .ok (fis, rf)) (bl : List (Sg × RVal))
    (kp : Option String) :
    Covered bl (fis.kept kp) ↔ (kp.or g.storePath ≠ none → (sgGet bl fis.retSig).isSome = true) ∧ CoveredL bl fis.subs := by
  rw [covered_iff, FIS.kept_storePath, FIS.kept_retSig, FIS.kept_subs, analyse_storePath ha]

theorem closed_empty (U : Universe) (m : Nat) (noop : Bool) : Closed U m { noop := noop } :=
  fun _ h => nomatch h

section
variable {U : Universe} {m : Nat} {S : PStore} (hC : Closed U m S)
  {W : World} {fn : Fn} {ctx : ArgCtx} {fuel : Nat} {refs : Refs} {stack : List String} {fis : FIS} {r : Refs}
  (hW : U.world W) (hU : U.fns fn) (ha : analyse m W fuel refs stack fn ctx = .ok (fis, r))
include hC hW hU ha

theorem Closed.covered (hb : (sgGet S.blobs fis.retSig).isSome = true) : CoveredL S.blobs fis.subs :=
  hC fis.retSig hb W fn ctx fuel refs stack fis r hW hU ha rfl

theorem Closed.storeBlob (hc : CoveredL S.blobs fis.subs) (v : RVal) : Closed U m (S.storeBlob fis.retSig v) := by
  intro k hk W' fn' ctx' fuel' refs' stack' fis' r' hW' hU' ha' hs'
  refine CoveredL.mono (grows_storeBlob S fis.retSig v) _ ?_
  by_cases hkk : k = fis.retSig
  · exact hc.of_sig hW hW' hU hU' ha ha' (hkk.symm.trans hs'.symm)
  · rw [sgGet_storeBlob_eq, if_neg fun h => hkk h.2.symm] at hk
    exact hC k hk W' fn' ctx' fuel' refs' stack' fis' r' hW' hU' ha' hs'

end

/-! ## A successful run covers its tree -/

def CovFn (U : Universe) (m : Nat) (W : World) (paths : List (String × Sg)) (fuel : Nat) : Prop :=
  ∀ (fn : Fn) (ctx : ArgCtx) (env : Env) (refs : Refs) (stack : List String) (fis : FIS) (r : Refs) (st : XSt),
    U.fns fn → analyse m W fuel refs stack fn ctx = .ok (fis, r) → FIS.pathsOKL paths fis.subs →
    st.store.noop = false → Closed U m st.store →
    Closed U m (runFn W paths fuel st fn env).2.store ∧ BlobGrows st.store (runFn W paths fuel st fn env).2.store ∧
    (∀ v, (runFn W paths fuel st fn env).1 = .ok v → CoveredL (runFn W paths fuel st fn env).2.store.blobs fis.subs)

/-- the conclusion of `CovFn` for any step run from the store `S`, with `post` of the blobs on success -/
def CovStep (U : Universe) (m : Nat) (S : PStore) (post : List (Sg × RVal) → Prop) {α : Type}
    (rx : Except XErr α × XSt) : Prop :=
  Closed U m rx.2.store ∧ BlobGrows S rx.2.store ∧ ∀ v, rx.1 = .ok v → post rx.2.store.blobs

section
variable {U : Universe} {m : Nat} {S : PStore} {xst : XSt} {post post' : List (Sg × RVal) → Prop} {α β : Type}
  {rx : Except XErr α × XSt}

theorem CovStep.error (hC : Closed U m xst.store) (e : XErr) :
    CovStep U m xst.store post ((.error e, xst) : Except XErr α × XSt) := ⟨hC, BlobGrows.refl _, nofun⟩

theorem CovStep.pure (hC : Closed U m xst.store) (hp : post xst.store.blobs) (v : α) :
    CovStep U m xst.store post ((.ok v, xst) : Except XErr α × XSt) := ⟨hC, BlobGrows.refl _, fun _ _ => hp⟩

theorem CovStep.imp (h : CovStep U m S post rx) (hpp : ∀ bl, post bl → post' bl) : CovStep U m S post' rx :=
  ⟨h.1, h.2.1, fun v hv => hpp _ (h.2.2 v hv)⟩

theorem CovStep.andThen {k : α → XSt → Except XErr β × XSt} (h : CovStep U m S post rx)
    (hk : ∀ v, Closed U m rx.2.store → post rx.2.store.blobs → CovStep U m rx.2.store post' (k v rx.2)) :
    CovStep U m S post' (Dds.andThen rx k) := by
  obtain ⟨vx, sx⟩ := rx
  obtain ⟨h1, h2, h3⟩ := h
  cases vx with
  | error e => exact ⟨h1, h2, nofun⟩
  | ok v =>
    obtain ⟨k1, k2, k3⟩ := hk v h1 (h3 v rfl)
    exact ⟨k1, h2.trans k2, k3⟩

end

section
variable (U : Universe) {m : Nat} {W : World} {paths : List (String × Sg)} {fuel : Nat} (hW : U.world W)
include hW

theorem cov_keep {g : Fn} {ctx : ArgCtx} {env' : Env} {refs : Refs} {stack : List String} {fis : FIS} {rf : Refs} {xst : XSt}
    {w : String} (hU : U.fns g) (ha : analyse m W fuel refs stack g ctx = .ok (fis, rf))
    (hkey : aget paths w = some fis.retSig) (hn : xst.store.noop = false) (hC : Closed U m xst.store)
    (hI : CovStep U m xst.store (fun bl => CoveredL bl fis.subs) (runFn W paths fuel xst g env')) :
    CovStep U m xst.store (fun bl => (sgGet bl fis.retSig).isSome = true ∧ CoveredL bl fis.subs)
      (keepExec paths (runFn W paths fuel) xst w g env') := by
  cases hb : sgGet xst.store.blobs fis.retSig with
  | some v =>
    have hb' : (sgGet xst.store.blobs fis.retSig).isSome = true := hb ▸ rfl
    rw [keepExec_hit hkey hb]
    exact .pure hC ⟨hb', hC.covered hW hU ha hb'⟩ v
  | none =>
    rw [keepExec_miss hkey hb]
    refine hI.andThen fun v c1 c3 => ?_
    have hn' := (runFn_noop W paths fuel xst g env').trans hn
    exact ⟨Closed.storeBlob c1 hW hU ha c3 v, grows_storeBlob _ _ _, fun _ _ =>
      ⟨by rw [sgGet_storeBlob_self _ _ _ hn']; rfl, CoveredL.mono (grows_storeBlob _ _ _) _ c3⟩⟩

variable (hIH : CovFn U m W paths fuel)
include hIH

theorem cov_call {f : String} {g : Fn} {ctx : ArgCtx} {refs : Refs} {stack : List String} {fis : FIS} {rf : Refs} {xst : XSt}
    (hfind : W.find f = some g) (ha : analyse m W fuel refs stack g ctx = .ok (fis, rf)) (kp : Option String)
    (hnd : FIS.pathsOK paths (fis.kept kp)) (hn : xst.store.noop = false) (hC : Closed U m xst.store)
    (pos : List RVal) (kw : List (String × RVal)) :
    CovStep U m xst.store (fun bl => Covered bl (fis.kept kp)) (runCall W paths (runFn W paths fuel) xst f pos kw kp) := by
  have hU := U.find hW hfind
  obtain ⟨k1, k2⟩ := (pathsOK_kept ha paths kp).mp hnd
  simp only [covered_kept ha]
  cases hb : bindRun g.params pos kw 0 with
  | none =>
    rw [runCall_unbound hfind hb]
    exact .error hC _
  | some env' =>
    have hI : CovStep U m xst.store (fun bl => CoveredL bl fis.subs) (runFn W paths fuel xst g env') :=
      hIH g ctx env' refs stack fis rf xst hU ha k2 hn hC
    rw [runCall_bound hfind hb]
    cases hw : kp.or g.storePath with
    | none => exact hI.imp fun _ h => ⟨fun h' => absurd rfl h', h⟩
    | some w => exact (cov_keep U hW hU ha (k1 w hw) hn hC hI).imp fun _ h => ⟨fun _ => h.1, h.2⟩

theorem cov_items (fn : Fn) (isig : Sg) (stack : List String) (env : Env) :
    ∀ (its : List Item) (s sfin : VisitSt) (results : List RVal) (xst : XSt),
      visitItems m W (analyse m W fuel) fn isig stack s its = .ok sfin →
      FIS.pathsOKL paths sfin.inters → SeenIn m W fuel sfin.inters s.seen →
      xst.store.noop = false → Closed U m xst.store → CoveredL xst.store.blobs s.inters →
      CovStep U m xst.store (fun bl => CoveredL bl sfin.inters)
        (runItems W (some paths) (runFn W paths fuel) fn env xst results its) := by
  intro its
  induction its with
  | nil =>
    intro s sfin results xst hv _ _ _ hC hcov
    cases hv
    exact .pure hC hcov results
  | cons it its ih =>
    intro s sfin results xst hrest hok hseen hn hC hcov
    obtain ⟨t, hv, hr⟩ := visitItems_cons_inv hrest
    rw [runItems_step]
    have claim : CovStep U m xst.store (fun bl => CoveredL bl t.inters)
        (runItemRes W paths (runFn W paths fuel) env xst results it) := by
      cases visitItem_inv hv with
      | load path line =>
        rw [CovStep, runItemRes_load_snd]
        exact ⟨hC, BlobGrows.refl _, fun _ _ => hcov⟩
      | seen f line hin =>
        obtain ⟨g, c, fis, rf, refs0, stack0, hfind, ha, hfin⟩ := hseen f hin
        obtain ⟨c1, c2, _⟩ := cov_call U hW hIH hfind ha none (pathsOKL_iff.mp hok _ hfin) hn hC [] []
        rw [runItemRes_callee (it := .ref f line) rfl]
        exact ⟨c1, c2, fun _ _ => CoveredL.mono c2 _ hcov⟩
      | call hc _ hstep =>
        obtain ⟨c1, c2, c3⟩ := cov_call U hW hIH hstep.find hstep.sub _ (pathsOKL_iff.mp hok _ (mem_inters_afterCall hr))
          hn hC (zipArgs results env _ _) (zipKw results env _ _)
        rw [runItemRes_callee hc]
        exact ⟨c1, c2, fun v hv => coveredL_append.mpr ⟨CoveredL.mono c2 _ hcov, c3 v hv, trivial⟩⟩
    have hno := runItemRes_frame PStore.noop storeBlob_noop (runFn_noop W paths fuel) W paths env xst results it
    exact claim.andThen fun v c1 c3 =>
      ih t sfin _ _ hr hok (hseen.step (visitItem_inv hv) fun _ => mem_inters_of_visitItems hr) (hno.trans hn) c1 c3

end

theorem cov_fn (U : Universe) (m : Nat) (W : World) (paths : List (String × Sg)) (hW : U.world W) :
    ∀ fuel, CovFn U m W paths fuel := by
  intro fuel
  induction fuel with
  | zero => exact fun _ _ _ _ _ _ _ _ _ ha => absurd ha analyse_zero
  | succ k ih =>
    intro fn ctx env refs stack fis r st hU ha hsubs hn hC
    obtain ⟨ev, io, sv, b, d, ret, a⟩ := analyse_inv ha
    rw [a.subs] at hsubs ⊢
    rw [runFn_step]
    show CovStep U m st.store (fun bl => CoveredL bl sv.inters) _
    refine (cov_items U hW ih fn _ stack env fn.items _ sv [] { st with log := st.log ++ [fn.name] }
      a.hvisit hsubs (forall_mem_nil _) hn hC trivial).andThen fun rs c1 c3 => ?_
    cases fn.fails with
    | some kind => exact .error c1 _
    | none => exact .pure c1 c3 _

/-! ## One evaluation: every requested path has its blob -/

theorem cov_root (U : Universe) {m : Nat} {W : World} {S : PStore} {rq : Request} (hW : U.world W) (hC : Closed U m S)
    (hn : S.noop = false) {fn : Fn} {env : Env} {fis' : FIS} {paths : List (String × Sg)} {named refs0 fis r}
    (P : PhaseOk m W S rq fn env fis' paths named refs0 fis r) :
    CovStep U m S (fun bl => Covered bl fis') (rootRun W S paths fis' fn env) := by
  have hU := U.find hW P.hfind
  obtain ⟨k1, k2⟩ := (pathsOK_iff paths fis').mp P.pathsOK
  rw [P.subs] at k2
  rw [P.retSig] at k1
  have hI : CovStep U m S (fun bl => CoveredL bl fis.subs) (runFn W paths W.fuel { store := S } fn env) :=
    cov_fn U m W paths hW W.fuel fn ⟨named, none⟩ env refs0 [] fis r { store := S } hU P.hana k2 hn hC
  simp only [covered_iff, P.retSig, P.subs]
  cases hp : fis'.storePath with
  | some p =>
    rw [rootRun_kept hp]
    exact (cov_keep U hW hU P.hana (k1 p hp) hn hC hI).imp fun _ h => ⟨fun _ => h.1, h.2⟩
  | none =>
    rw [rootRun_unkept hp, P.retSig]
    cases hb : sgGet S.blobs fis.retSig with
    | some w => exact .pure (xst := { store := S }) hC ⟨fun h => absurd rfl h, hC.covered hW hU P.hana (hb ▸ rfl)⟩ w
    | none => exact hI.imp fun _ h => ⟨fun h' => absurd rfl h', h⟩

theorem evalStep_covered (U : Universe) (m : Nat) (W : World) (S : PStore) (rq : Request)
    (hW : U.world W) (hC : Closed U m S) (hn : S.noop = false)
    {fn : Fn} {env : Env} {fis' : FIS} {paths : List (String × Sg)}
    (ha : analysisPhase m W S rq = .ok (fn, env, fis', paths)) (hs : Stage.eval ∈ rq.stages)
    {v : RVal} (hv : (evalStep m W S rq).value = .ok (some v)) :
    Covered (evalStep m W S rq).store.blobs fis' := by
  obtain ⟨named, refs0, fis, r, P⟩ := analysisPhase_inv ha
  rw [evalStep_ran ha hs, finish_blobs]
  exact (cov_root U hW hC hn P).2.2 v (rootRun_ok ha hs hv)

theorem requested_paths_stored (U : Universe) (m : Nat) (W : World) (S : PStore) (rq : Request)
    (hW : U.world W) (hC : Closed U m S) (hn : S.noop = false)
    {fn : Fn} {env : Env} {fis' : FIS} {paths : List (String × Sg)}
    (ha : analysisPhase m W S rq = .ok (fn, env, fis', paths)) (hs : Stage.eval ∈ rq.stages)
    {v : RVal} (hv : (evalStep m W S rq).value = .ok (some v)) (p : String) (k : Sg) (hp : aget paths p = some k) :
    (sgGet (evalStep m W S rq).store.blobs k).isSome = true := by
  obtain ⟨_, _, _, _, P⟩ := analysisPhase_inv ha
  exact (covered_iff_keptSigs fis').mp (evalStep_covered U m W S rq hW hC hn ha hs hv) (p, k)
    ((pathMap_iff P.hpaths p k).mp hp)

theorem closed_evalStep (U : Universe) (m : Nat) (W : World) (S : PStore) (rq : Request)
    (hW : U.world W) (hC : Closed U m S) (hn : S.noop = false) :
    Closed U m (evalStep m W S rq).store ∧ (evalStep m W S rq).store.noop = false := by
  refine ⟨?_, (evalStep_noop m W S rq).trans hn⟩
  cases ha : analysisPhase m W S rq with
  | error e => rw [evalStep_rejected ha]; exact hC
  | ok res =>
    by_cases hs : Stage.eval ∈ rq.stages
    · obtain ⟨named, refs0, fis, r, P⟩ := analysisPhase_inv ha
      rw [evalStep_ran ha hs]
      exact (cov_root U hW hC hn P).1.of_blobs (finish_blobs ..)
    · rw [evalStep_restricted ha hs]; exact hC

theorem closed_history (U : Universe) (m : Nat) : ∀ (hist : List HStep) (S : PStore), Closed U m S → S.noop = false →
    (∀ s ∈ hist, U.world s.world) → Closed U m (runHistory m S hist) ∧ (runHistory m S hist).noop = false := by
  intro hist
  induction hist with
  | nil => exact fun _ hC hn _ => ⟨hC, hn⟩
  | cons s ss ih =>
    intro S hC hn hok
    obtain ⟨h1, h2⟩ := closed_evalStep U m s.world S s.rq (hok s mem_cons_self) hC hn
    exact ih _ h1 h2 (fun t ht => hok t (mem_cons_of_mem _ ht))

/-! ## Re-evaluation: when the tree is covered, nothing is written -/

/-- the hypothesis on `isEval` is not used: an analysis that succeeds has met no `evalCall` item (`accepted_paths`) -/
def HitFn (m : Nat) (W : World) (paths : List (String × Sg)) (fuel : Nat) : Prop :=
  ∀ (fn : Fn) (ctx : ArgCtx) (env : Env) (refs : Refs) (stack : List String) (fis : FIS) (r : Refs) (st : XSt),
    analyse m W fuel refs stack fn ctx = .ok (fis, r) → FIS.pathsOKL paths fis.subs →
    CoveredL st.store.blobs fis.subs → (∀ it ∈ fn.items, ¬ it.isEval) →
    (runFn W paths fuel st fn env).2.store = st.store

section
variable {m : Nat} {W : World} {paths : List (String × Sg)} {fuel : Nat} (hIH : HitFn m W paths fuel)
  (hnl : ∀ f g, W.find f = some g → ∀ it ∈ g.items, ¬ it.isEval)
include hIH hnl

theorem hit_call {f : String} {g : Fn} {ctx : ArgCtx} {refs : Refs} {stack : List String} {fis : FIS} {rf : Refs} {xst : XSt}
    (hfind : W.find f = some g) (ha : analyse m W fuel refs stack g ctx = .ok (fis, rf)) (kp : Option String)
    (hnd : FIS.pathsOK paths (fis.kept kp)) (hcov : Covered xst.store.blobs (fis.kept kp))
    (pos : List RVal) (kw : List (String × RVal)) :
    (runCall W paths (runFn W paths fuel) xst f pos kw kp).2.store = xst.store := by
  obtain ⟨k1, k2⟩ := (pathsOK_kept ha paths kp).mp hnd
  obtain ⟨c1, c2⟩ := (covered_kept ha _ kp).mp hcov
  cases hb : bindRun g.params pos kw 0 with
  | none => rw [runCall_unbound hfind hb]
  | some env' =>
    rw [runCall_bound hfind hb]
    cases hw : kp.or g.storePath with
    | none => exact hIH g ctx env' refs stack fis rf xst ha k2 c2 (hnl f g hfind)
    | some w =>
      obtain ⟨v, hv⟩ := Option.isSome_iff_exists.mp (c1 (hw ▸ nofun))
      dsimp only
      rw [keepExec_hit (k1 w hw) hv]

theorem hit_items (fn : Fn) (isig : Sg) (stack : List String) (env : Env) :
    ∀ (its : List Item) (s sfin : VisitSt) (results : List RVal) (xst : XSt),
      visitItems m W (analyse m W fuel) fn isig stack s its = .ok sfin →
      FIS.pathsOKL paths sfin.inters → CoveredL xst.store.blobs sfin.inters → SeenIn m W fuel sfin.inters s.seen →
      (runItems W (some paths) (runFn W paths fuel) fn env xst results its).2.store = xst.store := by
  intro its
  induction its with
  | nil => intros; rfl
  | cons it its ih =>
    intro s sfin results xst hrest hok hcov hseen
    obtain ⟨t, hv, hr⟩ := visitItems_cons_inv hrest
    rw [runItems_step]
    have claim : (runItemRes W paths (runFn W paths fuel) env xst results it).2.store = xst.store := by
      cases visitItem_inv hv with
      | load path line => rw [runItemRes_load_snd]
      | seen f line hin =>
        obtain ⟨g, c, fis, rf, refs0, stack0, hfind, ha, hfin⟩ := hseen f hin
        rw [runItemRes_callee (it := .ref f line) rfl]
        exact hit_call hIH hnl hfind ha none (pathsOKL_iff.mp hok _ hfin) (coveredL_iff.mp hcov _ hfin) [] []
      | call hc _ hstep =>
        have hin := mem_inters_afterCall hr
        rw [runItemRes_callee hc]
        exact hit_call hIH hnl hstep.find hstep.sub _ (pathsOKL_iff.mp hok _ hin) (coveredL_iff.mp hcov _ hin) _ _
    exact andThen_frame_at (φ := XSt.store) claim fun _ =>
      ih t sfin _ _ hr hok (claim ▸ hcov) (hseen.step (visitItem_inv hv) fun _ => mem_inters_of_visitItems hr)

end

theorem hit_fn (m : Nat) (W : World) (paths : List (String × Sg))
    (hnlW : ∀ f g, W.find f = some g → ∀ it ∈ g.items, ¬ it.isEval) : ∀ fuel, HitFn m W paths fuel := by
  intro fuel
  induction fuel with
  | zero => exact fun _ _ _ _ _ _ _ _ ha => absurd ha analyse_zero
  | succ k ih =>
    intro fn ctx env refs stack fis r st ha hsubs hcov _
    obtain ⟨ev, io, sv, b, d, ret, a⟩ := analyse_inv ha
    rw [a.subs] at hsubs hcov
    rw [runFn_step]
    refine andThen_frame (φ := XSt.store) ?_ fun _ _ => by cases fn.fails <;> rfl
    exact hit_items ih hnlW fn _ stack env fn.items _ sv []
      { st with log := st.log ++ [fn.name] } a.hvisit hsubs hcov (forall_mem_nil _)

theorem covered_eval_writes_nothing (U : Universe) (m : Nat) (W : World) (S : PStore) (rq : Request) (hW : U.world W)
    {fn : Fn} {env : Env} {fis' : FIS} {paths : List (String × Sg)}
    (ha : analysisPhase m W S rq = .ok (fn, env, fis', paths)) (hcov : Covered S.blobs fis') :
    (evalStep m W S rq).store.blobs = S.blobs := by
  by_cases hs : Stage.eval ∈ rq.stages
  · rw [evalStep_ran ha hs, finish_blobs]
    cases hb : sgGet S.blobs fis'.retSig with
    | some w => rw [rootRun_hit ha hb]
    | none =>
      -- a covered root without a blob is not kept: its body runs, and writes nothing
      obtain ⟨named, refs0, fis, r, P⟩ := analysisPhase_inv ha
      obtain ⟨c1, c2⟩ := (covered_iff _ _).mp hcov
      have hp : fis'.storePath = none := Decidable.by_contra fun h => by rw [hb] at c1; exact nomatch c1 h
      rw [rootRun_miss ha hb, hp]
      rw [P.subs] at c2
      refine congrArg PStore.blobs (andThen_frame (φ := XSt.store) ?_ fun _ _ => rfl)
      exact hit_fn m W paths (fun f g hf => U.noEval g (U.find hW hf)) W.fuel fn ⟨named, none⟩ env refs0 [] fis r
        { store := S } P.hana (P.subs ▸ ((pathsOK_iff paths fis').mp P.pathsOK).2) c2 (U.noEval fn (U.find hW P.hfind))
  · rw [evalStep_restricted ha hs]

theorem root_blob_stored {m : Nat} {W : World} {S : PStore} {rq : Request} {fn : Fn} {env : Env} {fis : FIS}
    {paths : List (String × Sg)} (ha : analysisPhase m W S rq = .ok (fn, env, fis, paths)) (hs : Stage.eval ∈ rq.stages)
    (hn : S.noop = false) {p : String} (hp : fis.storePath = some p) {v : RVal}
    (hv : (evalStep m W S rq).value = .ok (some v)) :
    sgGet (evalStep m W S rq).store.blobs fis.retSig = some v := by
  have hr := rootRun_ok ha hs hv
  rw [evalStep_ran ha hs, finish_blobs]
  cases hb : sgGet S.blobs fis.retSig with
  | some w => rw [rootRun_hit ha hb] at hr ⊢; cases hr; exact hb
  | none =>
    rw [rootRun_miss ha hb, hp] at hr ⊢
    have hno := (runFn_noop W paths W.fuel { store := S } fn env).trans hn
    generalize runFn W paths W.fuel { store := S } fn env = rx at hr hno
    obtain ⟨_ | w, st⟩ := rx
    · cases hr
    · cases hr; exact sgGet_storeBlob_self _ _ _ hno

end Dds
