import DdsModel.Conc
import DdsProofs.LocalStore
/-! The inductive invariant of the write protocol (C06, C07), in Owicki-Gries shape: a micro-operation of a process
keeps the disk invariant and the process's own assertion (`Micro.preserves`) and does to the disk only what the
assertions of the other processes are stable under (`Micro.rely`, `ProcInv.frame`). -/
namespace Dds
open List

section
variable {α} {l : List (TmpName × α)} {k : TmpName}

theorem tget_eq : tget l k = kvGet l k :=
  eq_kvGet tget (fun _ => rfl) (fun _ _ _ _ => rfl) l k

theorem tget_tset_eq (v : α) : tget (tset l k v) k = some v := by
  rw [tget_eq, tset, kvGet_put, if_pos rfl]

theorem tget_tset_ne (k' : TmpName) (v : α) (h : k' ≠ k) :
    tget (tset l k v) k' = tget l k' := by
  rw [tget_eq, tget_eq, tset, kvGet_put, if_neg (Ne.symm h)]

theorem tget_tdel_ne (k' : TmpName) (h : k' ≠ k) :
    tget (tdel l k) k' = tget l k' := by
  rw [tget_eq, tget_eq, tdel, kvGet_del, if_neg (Ne.symm h)]

end

theorem halves_append (b : Bytes) : (halves b).1 ++ (halves b).2 = b := take_append_drop _ _

theorem isSome_aset {α} (l : List (String × α)) (k k' : String) (v : α) (h : (aget l k').isSome) :
    (aget (aset l k v) k').isSome := by
  by_cases hk : k' = k
  · rw [hk, aget_aset_eq]; rfl
  · rw [aget_aset_ne _ _ _ _ hk]; exact h

/-- everything published on the disk is complete and correct -/
structure DiskInv (V : Truth) (d : Disk) : Prop where
  blob_ok : ∀ k b, aget d.blobs k = some b → b = V.content k
  meta_ok : ∀ k m, aget d.metas k = some m → m = V.metaOf k ∧ (aget d.blobs k).isSome
  link_ok : ∀ l k, lget d.links l = some k → (aget d.metas k).isSome

/-- the local assertion of a process about the disk -/
structure ProcInv (V : Truth) (d : Disk) (p : Proc) : Prop where
  /-- stores already completed by this process are published -/
  done_ok : ∀ j k, j < p.idx → p.reqs[j]? = some (.store k) → (aget d.metas k).isSome
  /-- every sync still to come has its key published, or stored by an earlier pending request -/
  sync_ready : ∀ j l k, p.idx ≤ j → p.reqs[j]? = some (.sync l k) →
      (aget d.metas k).isSome ∨ ∃ i k', p.idx ≤ i ∧ i < j ∧ p.reqs[i]? = some (.store k') ∧ k' = k
  /-- the temporary file / link of the current request is what the program counter says -/
  tmp_full : ∀ k, p.reqs[p.idx]? = some (.store k) → p.pc = 3 → tget d.tmpFiles (p.id, p.idx) = some (V.content k)
  blob_pub : ∀ k, p.reqs[p.idx]? = some (.store k) → 4 ≤ p.pc → (aget d.blobs k).isSome
  tmp_meta : ∀ k, p.reqs[p.idx]? = some (.store k) → 6 ≤ p.pc → (tget d.tmpFiles (p.id, p.idx)).isSome
  tmp_link : ∀ l k, p.reqs[p.idx]? = some (.sync l k) → 2 ≤ p.pc → tget d.tmpLinks (p.id, p.idx) = some k

def SysInv (V : Truth) (s : Sys) : Prop :=
  DiskInv V s.disk ∧ (∀ p ∈ s.procs, ProcInv V s.disk p) ∧ s.procs.Pairwise (fun a b => a.id ≠ b.id)

/-! ## The micro-operations as a transition relation -/

variable {V : Truth} {d d' : Disk} {p p' : Proc}

/-- One rule per file-system call of `microStep`; `micro_spec` is the only place that unfolds it. What a write puts
into the private temporary file is left open, except that the file is complete when it is about to be published;
`stay` covers a finished process and an `os.replace` that finds no file. -/
inductive Micro (V : Truth) (d : Disk) (p : Proc) : Disk × Proc → Prop
  | stay : Micro V d p (d, p)
  | write (k : Key) (b : Bytes) : p.reqs[p.idx]? = some (.store k) → p.pc ≠ 3 → (p.pc = 2 → b = V.content k) →
      Micro V d p ({ d with tmpFiles := tset d.tmpFiles (p.id, p.idx) b }, { p with pc := p.pc + 1 })
  | pubBlob (k : Key) (b : Bytes) : p.reqs[p.idx]? = some (.store k) → p.pc = 3 →
      tget d.tmpFiles (p.id, p.idx) = some b →
      Micro V d p ({ d with blobs := aset d.blobs k b, tmpFiles := tdel d.tmpFiles (p.id, p.idx) }, { p with pc := 4 })
  | pubMeta (k : Key) : p.reqs[p.idx]? = some (.store k) → 6 ≤ p.pc →
      Micro V d p ({ d with metas := aset d.metas k (V.metaOf k), tmpFiles := tdel d.tmpFiles (p.id, p.idx) },
        { p with idx := p.idx + 1, pc := 0 })
  | mkdir (l : Loc) (k : Key) : p.reqs[p.idx]? = some (.sync l k) → p.pc = 0 → Micro V d p (d, { p with pc := 1 })
  | tmpLink (l : Loc) (k : Key) : p.reqs[p.idx]? = some (.sync l k) → p.pc = 1 →
      Micro V d p ({ d with tmpLinks := tset d.tmpLinks (p.id, p.idx) k }, { p with pc := 2 })
  | pubLink (l : Loc) (k k' : Key) : p.reqs[p.idx]? = some (.sync l k) → 2 ≤ p.pc →
      tget d.tmpLinks (p.id, p.idx) = some k' →
      Micro V d p ({ d with links := lset d.links l k', tmpLinks := tdel d.tmpLinks (p.id, p.idx) },
        { p with idx := p.idx + 1, pc := 0 })

theorem micro_spec (V : Truth) (d : Disk) (p : Proc) : Micro V d p (microStep V d p) := by
  unfold microStep
  dsimp only
  generalize hreq : p.reqs[p.idx]? = r
  generalize hf : tget d.tmpFiles (p.id, p.idx) = tf
  generalize hl : tget d.tmpLinks (p.id, p.idx) = tl
  -- with the fields of `p` and the program counter as numerals every `match` reduces by evaluation
  obtain ⟨id, reqs, idx, pc⟩ := p
  rcases r with _ | ⟨k⟩ | ⟨l, k⟩
  · exact .stay
  · rcases pc with _ | _ | _ | _ | _ | _ | n
    · exact .write k _ hreq nofun nofun
    · exact .write k _ hreq nofun nofun
    · exact .write k _ hreq nofun fun _ => halves_append _
    · cases tf
      · exact .stay
      · exact .pubBlob k _ hreq rfl hf
    · exact .write k _ hreq nofun nofun
    · exact .write k _ hreq nofun nofun
    · cases tf
      · exact .stay
      · exact .pubMeta k hreq (Nat.le_add_left 6 n)
  · rcases pc with _ | _ | n
    · exact .mkdir l k hreq rfl
    · exact .tmpLink l k hreq rfl
    · cases tl
      · exact .stay
      · exact .pubLink l k _ hreq (Nat.le_add_left 2 n) hl

theorem stepAt_eq (V : Truth) (s : Sys) (i : Nat) :
    s.stepAt V i = s ∨
    ∃ p d' p', s.procs[i]? = some p ∧ Micro V s.disk p (d', p') ∧ s.stepAt V i = ⟨d', s.procs.set i p'⟩ := by
  unfold Sys.stepAt
  cases hp : s.procs[i]? with
  | none => exact .inl rfl
  | some p => exact .inr ⟨p, _, _, rfl, micro_spec V s.disk p, rfl⟩

/-- what the process `id` relies on when another one moves: what is published stays published, and the temporaries
with `id`'s names are untouched -/
structure Rely (d d' : Disk) (id : Nat) : Prop where
  blobs : ∀ k, (aget d.blobs k).isSome → (aget d'.blobs k).isSome
  metas : ∀ k, (aget d.metas k).isSome → (aget d'.metas k).isSome
  files : ∀ n, tget d'.tmpFiles (id, n) = tget d.tmpFiles (id, n)
  links : ∀ n, tget d'.tmpLinks (id, n) = tget d.tmpLinks (id, n)

theorem ProcInv.frame {q : Proc} (h : ProcInv V d q) (r : Rely d d' q.id) : ProcInv V d' q where
  done_ok j k hj hr := r.metas k (h.done_ok j k hj hr)
  sync_ready j l k hj hr := (h.sync_ready j l k hj hr).imp_left (r.metas k)
  tmp_full k hr hp := by rw [r.files]; exact h.tmp_full k hr hp
  blob_pub k hr hp := r.blobs k (h.blob_pub k hr hp)
  tmp_meta k hr hp := by rw [r.files]; exact h.tmp_meta k hr hp
  tmp_link l k hr hp := by rw [r.links]; exact h.tmp_link l k hr hp

theorem ne_of_fst_ne {i j n m : Nat} (h : i ≠ j) : ((i, n) : TmpName) ≠ (j, m) := fun e => h (Prod.mk.inj e).1

theorem Micro.rely (h : Micro V d p (d', p')) {i : Nat} (hi : i ≠ p.id) : Rely d d' i := by
  cases h with
  | stay | mkdir => exact ⟨fun _ h => h, fun _ h => h, fun _ => rfl, fun _ => rfl⟩
  | write => exact ⟨fun _ h => h, fun _ h => h, fun _ => tget_tset_ne _ _ (ne_of_fst_ne hi), fun _ => rfl⟩
  | pubBlob =>
    exact ⟨fun _ h => isSome_aset _ _ _ _ h, fun _ h => h, fun _ => tget_tdel_ne _ (ne_of_fst_ne hi), fun _ => rfl⟩
  | pubMeta =>
    exact ⟨fun _ h => h, fun _ h => isSome_aset _ _ _ _ h, fun _ => tget_tdel_ne _ (ne_of_fst_ne hi), fun _ => rfl⟩
  | tmpLink => exact ⟨fun _ h => h, fun _ h => h, fun _ => rfl, fun _ => tget_tset_ne _ _ (ne_of_fst_ne hi)⟩
  | pubLink => exact ⟨fun _ h => h, fun _ h => h, fun _ => rfl, fun _ => tget_tdel_ne _ (ne_of_fst_ne hi)⟩

/-- before the first publishing step of a request (`store`: 3, `sync`: 2) nothing is asserted about temporaries -/
theorem ProcInv.of_pc_lt_two (hpc : p.pc < 2)
    (hdone : ∀ j k, j < p.idx → p.reqs[j]? = some (.store k) → (aget d.metas k).isSome)
    (hsync : ∀ j l k, p.idx ≤ j → p.reqs[j]? = some (.sync l k) →
      (aget d.metas k).isSome ∨ ∃ i k', p.idx ≤ i ∧ i < j ∧ p.reqs[i]? = some (.store k') ∧ k' = k) :
    ProcInv V d p :=
  have hno {n : Nat} (h2 : 2 ≤ n) (h : n ≤ p.pc) : False := Nat.lt_irrefl _ (Nat.lt_of_lt_of_le hpc (Nat.le_trans h2 h))
  ⟨hdone, hsync, fun _ _ h => (hno (n := 3) (by decide) (Nat.le_of_eq h.symm)).elim, fun _ _ h => (hno (by decide) h).elim,
    fun _ _ h => (hno (by decide) h).elim, fun _ _ _ h => (hno (Nat.le_refl 2) h).elim⟩

/-- the current request is complete: metadata only grew, and if the request was a store its key is now published -/
theorem ProcInv.advance (hp : ProcInv V d p)
    (hm : ∀ k, (aget d.metas k).isSome → (aget d'.metas k).isSome)
    (hcur : ∀ k, p.reqs[p.idx]? = some (.store k) → (aget d'.metas k).isSome) :
    ProcInv V d' { p with idx := p.idx + 1, pc := 0 } := by
  refine .of_pc_lt_two Nat.zero_lt_two (fun j k hj hr => ?_) (fun j l k hj hr => ?_)
  · rcases Nat.lt_succ_iff_lt_or_eq.mp hj with hj | rfl
    · exact hm k (hp.done_ok j k hj hr)
    · exact hcur k hr
  · rcases hp.sync_ready j l k (Nat.le_of_succ_le hj) hr with h | ⟨i, k', hi, hij, hs, rfl⟩
    · exact .inl (hm _ h)
    · rcases Nat.eq_or_lt_of_le hi with rfl | hi
      · exact .inl (hcur _ hs)
      · exact .inr ⟨i, _, hi, hij, hs, rfl⟩

theorem Micro.preserves (h : Micro V d p (d', p')) (hd : DiskInv V d) (hp : ProcInv V d p) :
    DiskInv V d' ∧ ProcInv V d' p' := by
  cases h with
  | stay => exact ⟨hd, hp⟩
  | write k b hreq h3 hfull =>
    refine ⟨⟨hd.1, hd.2, hd.3⟩, hp.done_ok, hp.sync_ready, fun k' hr hpc => ?_, fun k' hr hpc => ?_, fun _ _ _ => ?_,
      fun _ _ hr _ => nomatch hreq.symm.trans hr⟩
    · cases hreq.symm.trans hr
      rw [tget_tset_eq, hfull (Nat.succ.inj hpc)]
    · exact hp.blob_pub k' hr (Nat.lt_of_le_of_ne (Nat.le_of_succ_le_succ hpc) (Ne.symm h3))
    · rw [tget_tset_eq]; rfl
  | pubBlob k b hreq hpc hb =>
    -- the temporary file is complete: `tmp_full`
    obtain rfl : V.content k = b := Option.some.inj ((hp.tmp_full k hreq hpc).symm.trans hb)
    refine ⟨⟨fun k' b hb => ?_, fun k' m hm => ?_, hd.3⟩, hp.done_ok, hp.sync_ready, fun _ _ h => (nomatch h),
      fun k' hr _ => ?_, fun _ _ h => absurd h (by decide : ¬6 ≤ 4), fun _ _ hr _ => nomatch hreq.symm.trans hr⟩
    · by_cases hk : k' = k
      · rw [hk, aget_aset_eq] at hb; rw [hk]; exact (Option.some.inj hb).symm
      · rw [aget_aset_ne _ _ _ _ hk] at hb; exact hd.1 k' b hb
    · exact ⟨(hd.2 k' m hm).1, isSome_aset _ _ _ _ (hd.2 k' m hm).2⟩
    · cases hreq.symm.trans hr
      rw [aget_aset_eq]; rfl
  | pubMeta k hreq hpc =>
    -- the blob is published before its metadata: `blob_pub`
    refine ⟨⟨hd.1, fun k' m hm => ?_, fun l k' hl => isSome_aset _ _ _ _ (hd.3 l k' hl)⟩,
      hp.advance (fun _ h => isSome_aset _ _ _ _ h) fun k' hr => ?_⟩
    · by_cases hk : k' = k
      · rw [hk, aget_aset_eq] at hm; rw [hk]
        exact ⟨(Option.some.inj hm).symm, hp.blob_pub k hreq (Nat.le_trans (by decide) hpc)⟩
      · rw [aget_aset_ne _ _ _ _ hk] at hm; exact hd.2 k' m hm
    · cases hreq.symm.trans hr
      rw [aget_aset_eq]; rfl
  | mkdir l k hreq hpc => exact ⟨hd, .of_pc_lt_two (Nat.lt_succ_self 1) hp.done_ok hp.sync_ready⟩
  | tmpLink l k hreq hpc =>
    refine ⟨⟨hd.1, hd.2, hd.3⟩, hp.done_ok, hp.sync_ready, fun _ hr _ => (nomatch hreq.symm.trans hr),
      fun _ hr _ => (nomatch hreq.symm.trans hr), fun _ hr _ => (nomatch hreq.symm.trans hr), fun _ _ hr _ => ?_⟩
    cases hreq.symm.trans hr
    exact tget_tset_eq _
  | pubLink l k k' hreq hpc hl =>
    -- the link points where the request says (`tmp_link`), and that key is published (`sync_ready`)
    obtain rfl : k = k' := Option.some.inj ((hp.tmp_link l k hreq hpc).symm.trans hl)
    have hmeta : (aget d.metas k).isSome :=
      (hp.sync_ready p.idx l k (Nat.le_refl _) hreq).elim id fun ⟨i, _, h1, h2, _⟩ => absurd h2 (Nat.not_lt.mpr h1)
    refine ⟨⟨hd.1, hd.2, fun l' k' hl' => ?_⟩, hp.advance (fun _ h => h) fun _ hr => nomatch hreq.symm.trans hr⟩
    rw [lget_lset] at hl'
    split at hl'
    · exact Option.some.inj hl' ▸ hmeta
    · exact hd.3 l' k' hl'

/-! ## The system -/

theorem map_set_of_eq {α β} (f : α → β) {l : List α} {i : Nat} {a a' : α} (hi : l[i]? = some a) (h : f a' = f a) :
    (l.set i a').map f = l.map f := by
  obtain ⟨hi, rfl⟩ := List.getElem?_eq_some_iff.mp hi
  rw [map_set, h, ← getElem_map f (h := by rwa [length_map]), set_getElem_self]

theorem mem_set_of_pairwise {α} {R : α → α → Prop} {l : List α} {i : Nat} {a a' b : α} (hR : l.Pairwise R)
    (hi : l[i]? = some a) (hb : b ∈ l.set i a') : b = a' ∨ b ∈ l ∧ (R a b ∨ R b a) := by
  obtain ⟨j, hj, rfl⟩ := getElem_of_mem hb
  obtain ⟨hil, rfl⟩ := List.getElem?_eq_some_iff.mp hi
  rw [length_set] at hj
  rw [getElem_set]
  split
  · exact .inl rfl
  · rename_i hne
    refine .inr ⟨getElem_mem hj, ?_⟩
    rcases Nat.lt_or_gt_of_ne hne with hlt | hgt
    · exact .inl (pairwise_iff_getElem.mp hR i j hil hj hlt)
    · exact .inr (pairwise_iff_getElem.mp hR j i hj hil hgt)

theorem Micro.id_reqs (h : Micro V d p (d', p')) : p'.id = p.id ∧ p'.reqs = p.reqs := by
  cases h <;> exact ⟨rfl, rfl⟩

theorem stepAt_map {β} (V : Truth) (f : Proc → β) (hf : ∀ {d d' p p'}, Micro V d p (d', p') → f p' = f p)
    (s : Sys) (i : Nat) : (s.stepAt V i).procs.map f = s.procs.map f := by
  rcases stepAt_eq V s i with e | ⟨p, d', p', hp, hm, e⟩
  · rw [e]
  · rw [e]
    exact map_set_of_eq f hp (hf hm)

theorem inv_step (V : Truth) (s : Sys) (i : Nat) (h : SysInv V s) : SysInv V (s.stepAt V i) := by
  obtain ⟨hd, hps, hdist⟩ := h
  have hids : (s.stepAt V i).procs.Pairwise (fun a b => a.id ≠ b.id) := by
    have : (s.procs.map Proc.id).Pairwise (· ≠ ·) := pairwise_map.mpr hdist
    rw [← stepAt_map V Proc.id (·.id_reqs.1) s i] at this
    exact pairwise_map.mp this
  rcases stepAt_eq V s i with e | ⟨p, d', p', hp, hm, e⟩ <;> rw [e] at hids ⊢
  · exact ⟨hd, hps, hdist⟩
  · obtain ⟨hd', hp'⟩ := hm.preserves hd (hps p (mem_of_getElem? hp))
    refine ⟨hd', fun q hq => ?_, hids⟩
    -- `q` is the process that moved, or another one, whose id differs
    rcases mem_set_of_pairwise hdist hp hq with rfl | ⟨hq, hne⟩
    · exact hp'
    · exact (hps q hq).frame (hm.rely (hne.elim Ne.symm id))

theorem inv_run (V : Truth) : ∀ (sched : List Nat) (s : Sys), SysInv V s → SysInv V (s.run V sched) := by
  intro sched
  induction sched with
  | nil => exact fun _ h => h
  | cons i is ih => exact fun s h => ih _ (inv_step V s i h)

/-! ## Readers, crashes, paths -/

theorem DiskInv.has_of_meta (h : DiskInv V d) {k : Key} (hm : (aget d.metas k).isSome) :
    d.hasBlob k = true := by
  obtain ⟨m, hm'⟩ := Option.isSome_iff_exists.mp hm
  rw [Disk.hasBlob, hm, (h.meta_ok k m hm').2]; rfl

theorem reader_correct (V : Truth) (d : Disk) (h : DiskInv V d) (k : Key) (hk : d.hasBlob k = true) :
    d.fetch k = some (V.content k, V.metaOf k) := by
  obtain ⟨hb, hm⟩ := Bool.and_eq_true_iff.mp hk
  obtain ⟨b, hb⟩ := Option.isSome_iff_exists.mp hb
  obtain ⟨m, hm⟩ := Option.isSome_iff_exists.mp hm
  rw [Disk.fetch, hb, hm, h.blob_ok k b hb, (h.meta_ok k m hm).1]

theorem resolve_complete (V : Truth) (d : Disk) (h : DiskInv V d) (l : Loc) (k : Key) (hl : d.resolve l = some k) :
    d.hasBlob k = true := h.has_of_meta (h.link_ok l k hl)

/-- killed processes are dropped: what they left on the disk is covered by the disk invariant, or is a temporary that
no assertion of another process mentions -/
theorem inv_kill (V : Truth) (s : Sys) (alive : Proc → Bool) (h : SysInv V s) :
    SysInv V ⟨s.disk, s.procs.filter alive⟩ :=
  ⟨h.1, fun p hp => h.2.1 p (mem_filter.mp hp).1, h.2.2.sublist filter_sublist⟩

theorem ProcInv.start (V : Truth) (d : Disk) (q : Proc) (hidx : q.idx = 0) (hpc : q.pc = 0)
    (hready : ∀ (j : Nat) l k, q.reqs[j]? = some (Req.sync l k) →
      (aget d.metas k).isSome ∨ ∃ (i : Nat) (k' : Key), i < j ∧ q.reqs[i]? = some (Req.store k') ∧ k' = k) :
    ProcInv V d q :=
  .of_pc_lt_two (hpc ▸ Nat.zero_lt_two) (fun j _ hj => absurd (hidx ▸ hj) (Nat.not_lt_zero j)) fun j l k _ hr =>
    (hready j l k hr).imp_right fun ⟨i, k', h⟩ => ⟨i, k', hidx ▸ Nat.zero_le i, h⟩

theorem inv_spawn (V : Truth) (s : Sys) (q : Proc) (h : SysInv V s) (hfresh : ∀ p ∈ s.procs, p.id ≠ q.id)
    (hq : ProcInv V s.disk q) : SysInv V ⟨s.disk, s.procs ++ [q]⟩ := by
  refine ⟨h.1, fun p hp => ?_, pairwise_append.mpr ⟨h.2.2, pairwise_singleton _ _, fun a ha b hb => ?_⟩⟩
  · rcases mem_append.mp hp with hp | hp
    · exact h.2.1 p hp
    · rw [mem_singleton.mp hp]; exact hq
  · rw [mem_singleton.mp hb]; exact hfresh a ha

theorem Micro.links (h : Micro V d p (d', p')) (hp : ProcInv V d p) {l : Loc} {k : Key}
    (hl : lget d'.links l = some k) : lget d.links l = some k ∨ Req.sync l k ∈ p.reqs := by
  cases h with
  | pubLink l' k₁ k' hreq hpc ht =>
    obtain rfl : k₁ = k' := Option.some.inj ((hp.tmp_link l' k₁ hreq hpc).symm.trans ht)
    rw [lget_lset] at hl
    split at hl
    · rename_i hll
      exact .inr (hll ▸ Option.some.inj hl ▸ mem_of_getElem? hreq)
    · exact .inl hl
  | _ => exact .inl hl

theorem exists_mem_of_map_eq {α β} {f : α → β} {l l' : List α} (h : l.map f = l'.map f) {P : β → Prop} :
    (∃ x ∈ l, P (f x)) → ∃ x ∈ l', P (f x) := fun ⟨x, hx, hP⟩ => by
  obtain ⟨y, hy, e⟩ := mem_map.mp (h ▸ mem_map_of_mem (f := f) hx)
  exact ⟨y, hy, e ▸ hP⟩

theorem stepAt_reqs (V : Truth) (s : Sys) (i : Nat) (l : Loc) (k : Key)
    (h : ∃ p ∈ (s.stepAt V i).procs, Req.sync l k ∈ p.reqs) : ∃ p ∈ s.procs, Req.sync l k ∈ p.reqs :=
  exists_mem_of_map_eq (stepAt_map V Proc.reqs (·.id_reqs.2) s i) h

/-- With `stepAt_reqs`: a state and its successor have the same requests, so "some process has the request" can be read
at either end of a run. `resolve_old_or_requested` reads it at the start and needs the other direction only. -/
theorem reqs_stepAt (V : Truth) (s : Sys) (i : Nat) (l : Loc) (k : Key)
    (h : ∃ p ∈ s.procs, Req.sync l k ∈ p.reqs) : ∃ p ∈ (s.stepAt V i).procs, Req.sync l k ∈ p.reqs :=
  exists_mem_of_map_eq (stepAt_map V Proc.reqs (·.id_reqs.2) s i).symm h

theorem resolve_old_or_requested (V : Truth) (sched : List Nat) (s : Sys) (hinv : SysInv V s) (l : Loc) (k : Key)
    (h : (s.run V sched).disk.resolve l = some k) :
    s.disk.resolve l = some k ∨ ∃ p ∈ s.procs, Req.sync l k ∈ p.reqs := by
  induction sched generalizing s with
  | nil => exact .inl h
  | cons i is ih =>
    rcases ih (s.stepAt V i) (inv_step V s i hinv) h with h1 | h1
    · -- the link was there after step `i`: it was there before, or step `i` wrote it
      rcases stepAt_eq V s i with e | ⟨p, d', p', hp, hm, e⟩ <;> rw [e] at h1
      · exact .inl h1
      · exact (hm.links (hinv.2.1 p (mem_of_getElem? hp)) h1).imp_right fun hr => ⟨p, mem_of_getElem? hp, hr⟩
    · exact .inr (stepAt_reqs V s i l k h1)

end Dds
