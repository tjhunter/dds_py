import DdsModel.Lru
import DdsProofs.Assoc
import DdsProofs.StoreSim
/-! Lemmas for C12: the cache wrapper simulates the dictionary whenever the wrapped store does. -/
namespace Dds
open List

variable {σ : Type} (R : σ → Dict → Prop) (ok : StoreOp → Prop) (istep : σ → StoreOp → σ × Out)

def LruRel (s : Lru σ) (d : Dict) : Prop := R s.inner d ∧ ∀ kv ∈ s.cache, aget d.blobs kv.1 = some kv.2

theorem cacheGet_spec {c : Cache} {k : Key} {v : Val} {c' : Cache} (h : cacheGet c k = some (v, c')) :
    (k, v) ∈ c ∧ (∀ kv ∈ c', kv ∈ c) ∧ c'.length ≤ c.length := by
  unfold cacheGet at h
  cases hg : aget c k with
  | none => rw [hg] at h; cases h
  | some v0 =>
    rw [hg] at h
    cases h
    have hm := aget_mem hg
    refine ⟨hm, fun kv hkv => ?_, ?_⟩
    · rcases mem_append.mp hkv with h | h
      · exact (mem_filter.mp h).1
      · exact mem_singleton.mp h ▸ hm
    · -- the entry moved to the end was filtered out first
      have hlt : (filter (fun kv : Key × Val => decide (kv.1 ≠ k)) c).length < c.length :=
        length_filter_lt_length_iff_exists.mpr ⟨(k, v), hm, fun h => of_decide_eq_true h rfl⟩
      rw [length_append]; exact hlt

theorem cachePut_spec (cap : Nat) (c : Cache) (k : Key) (v : Val) :
    (∀ kv ∈ cachePut cap c k v, kv ∈ c ∨ kv = (k, v)) ∧ (cachePut cap c k v).length ≤ cap := by
  unfold cachePut
  refine ⟨fun kv hkv => ?_, ?_⟩
  · rcases mem_append.mp (mem_of_mem_drop hkv) with h | h
    · exact .inl (mem_filter.mp h).1
    · exact .inr (mem_singleton.mp h)
  · rw [length_drop]; omega

/-- Whatever the names say, these two are about the whole dictionary: `has` and `fetch` return it as it is. That is `rfl`,
and `lru_step` uses it so, without naming them; `Dict.step_fetchPaths_fst` is the third of the kind. -/
theorem step_blobs_of_has (d : Dict) (k : Key) : (d.step (.has k)).1 = d := rfl
theorem step_blobs_of_fetch (d : Dict) (k : Key) : (d.step (.fetch k)).1 = d := rfl

theorem Dict.step_fetchPaths_fst (d : Dict) (ps : List DPath) : (d.step (.fetchPaths ps)).1 = d := by
  dsimp only [Dict.step]; split <;> rfl

theorem cacheGet_sound {b : List (Key × Val)} {c c' : Cache} {k : Key} {v : Val}
    (h : ∀ kv ∈ c, aget b kv.1 = some kv.2) (hg : cacheGet c k = some (v, c')) :
    (∀ kv ∈ c', aget b kv.1 = some kv.2) ∧ aget b k = some v :=
  have ⟨hm, hsub, _⟩ := cacheGet_spec hg
  ⟨fun kv hkv => h kv (hsub kv hkv), h _ hm⟩

theorem cachePut_sound {b : List (Key × Val)} {c : Cache} {k : Key} {v : Val}
    (h : ∀ kv ∈ c, aget b kv.1 = some kv.2) (hk : aget b k = some v) (cap : Nat) :
    ∀ kv ∈ cachePut cap c k v, aget b kv.1 = some kv.2 := fun kv hkv =>
  ((cachePut_spec cap c k v).1 kv hkv).elim (h kv) fun e => e ▸ hk

variable {R ok istep}

/-- `hokhas`: a `fetch k` that the wrapped store answers by `None` is followed by `has k` (a stored `None` is cached, an
absent key is not) -/
theorem lru_step (hsim : Sim R ok istep) (hokhas : ∀ k, ok (.fetch k) → ok (.has k)) (cap : Nat) :
    Sim (LruRel R) ok (Lru.step cap istep) := by
  intro s d op hop hrel
  obtain ⟨hR, hinv⟩ := hrel
  obtain ⟨h1, h2⟩ := hsim s.inner d op hop hR
  cases op with
  | has k =>
    dsimp only [Lru.step]
    cases hg : cacheGet s.cache k with
    | some vc =>
      have ⟨hc, hk⟩ := cacheGet_sound hinv hg
      exact ⟨⟨hR, hc⟩, (congrArg (fun o : Option Val => Out.bool o.isSome) hk).symm⟩
    | none => exact ⟨⟨h1, hinv⟩, h2⟩
  | fetch k =>
    dsimp only [Lru.step]
    cases hg : cacheGet s.cache k with
    | some vc =>
      have ⟨hc, hk⟩ := cacheGet_sound hinv hg
      exact ⟨⟨hR, hc⟩, (congrArg (fun o : Option Val => Out.val (o.getD none)) hk).symm⟩
    | none =>
      -- neither `fetch k` nor `has k` changes the dictionary
      obtain ⟨g1, g2⟩ := hsim _ d (.has k) (hokhas k hop) h1
      dsimp only [Dict.step] at h2 g2 ⊢
      rw [h2, g2]
      cases hb : aget d.blobs k with
      | none => exact ⟨⟨g1, hinv⟩, rfl⟩
      | some v =>
        cases v with
        | some n => exact ⟨⟨h1, cachePut_sound hinv hb cap⟩, rfl⟩
        | none => exact ⟨⟨g1, cachePut_sound hinv hb cap⟩, rfl⟩
  | store k v =>
    refine ⟨⟨h1, fun kv hkv => ?_⟩, h2⟩
    have hk := mem_filter.mp hkv
    exact (aget_aset_ne _ _ _ _ (of_decide_eq_true hk.2)).trans (hinv kv hk.1)
  | sync ps => exact ⟨⟨h1, hinv⟩, h2⟩
  | fetchPaths ps => exact ⟨⟨h1, (Dict.step_fetchPaths_fst d ps).symm ▸ hinv⟩, h2⟩

theorem lru_step_bounded (istep : σ → StoreOp → σ × Out) (cap : Nat) (s : Lru σ) (op : StoreOp)
    (h : s.cache.length ≤ cap) : (Lru.step cap istep s op).1.cache.length ≤ cap := by
  cases op with
  | has k =>
    dsimp only [Lru.step]
    cases hg : cacheGet s.cache k with
    | some vc => exact Nat.le_trans (cacheGet_spec hg).2.2 h
    | none => exact h
  | fetch k =>
    dsimp only [Lru.step]
    cases hg : cacheGet s.cache k with
    | some vc => exact Nat.le_trans (cacheGet_spec hg).2.2 h
    | none =>
      simp only []
      split
      · exact (cachePut_spec ..).2
      · split
        · exact (cachePut_spec ..).2
        · exact h
      · exact h
  | store k v => exact Nat.le_trans (length_filter_le _ _) h
  | sync ps | fetchPaths ps => exact h

end Dds
