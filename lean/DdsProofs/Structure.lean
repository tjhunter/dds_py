import DdsModel.Structure
/-!
# The guard of the implicit (call-order) edges of `_structure`

The search `reaches` (added by the `fix:` commit for cycles of dotted edges) only ever appends the target of an edge whose
source it holds and whose target it does not (`reachSet_induction`): what holds of every set it meets (reachable nodes only,
no duplicate, only the start and targets of edges) comes through that principle. `reaches_iff` is the counting argument on
top; `guarded_insert_acyclic` is what the guard is for.
-/
namespace Dds
open List

inductive Reach (E : List (Sg × Sg)) : Sg → Sg → Prop
  | refl (a : Sg) : Reach E a a
  | step {a b c : Sg} : Reach E a b → (b, c) ∈ E → Reach E a c

theorem Reach.trans {E : List (Sg × Sg)} {a b c : Sg} (h1 : Reach E a b) (h2 : Reach E b c) : Reach E a c := by
  induction h2 with
  | refl => exact h1
  | step _ he ih => exact Reach.step ih he

theorem Reach.mono {E E' : List (Sg × Sg)} (hs : ∀ e ∈ E, e ∈ E') {a b : Sg} (h : Reach E a b) : Reach E' a b := by
  induction h with
  | refl => exact Reach.refl _
  | step _ he ih => exact Reach.step ih (hs _ he)

theorem mem_addNew {α} [DecidableEq α] {l : List α} {a x : α} : x ∈ addNew l a ↔ x ∈ l ∨ x = a := by
  unfold addNew
  split
  · exact ⟨Or.inl, fun h => h.elim id (· ▸ ‹_›)⟩
  · simp

theorem mem_addAll {α} [DecidableEq α] {as l : List α} {x : α} : x ∈ addAll l as ↔ x ∈ l ∨ x ∈ as := by
  induction as generalizing l with
  | nil => simp [addAll]
  | cons a as ih => rw [addAll, foldl_cons, ← addAll, ih, mem_addNew, mem_cons, or_assoc]

theorem reachStep_induction {P : List Sg → Prop} {E : List (Sg × Sg)} {S : List Sg} (hS : P S)
    (h : ∀ acc, P acc → ∀ e ∈ E, e.1 ∈ acc → e.2 ∉ acc → P (acc ++ [e.2])) : P (reachStep E S) := by
  refine List.foldlRecOn E _ hS fun acc hacc e he => ?_
  unfold addNew
  split
  · split
    · exact hacc
    · exact h acc hacc e he ‹_› ‹_›
  · exact hacc

theorem reachStep_ext (E : List (Sg × Sg)) (S : List Sg) : ∃ d, reachStep E S = S ++ d :=
  reachStep_induction (P := fun acc => ∃ d, acc = S ++ d) ⟨[], (append_nil S).symm⟩
    fun _ ⟨d, hd⟩ e _ _ _ => ⟨d ++ [e.2], by rw [hd, append_assoc]⟩

theorem subset_reachStep (E : List (Sg × Sg)) (S : List Sg) : S ⊆ reachStep E S := by
  obtain ⟨d, hd⟩ := reachStep_ext E S
  rw [hd]; exact subset_append_left S d

theorem reachStep_closes (E : List (Sg × Sg)) (S : List Sg) {x y : Sg} (hx : x ∈ S) (he : (x, y) ∈ E) : y ∈ reachStep E S := by
  induction E generalizing S with
  | nil => cases he
  | cons e E ih =>
    have hsub : S ⊆ reachStep [e] S := subset_reachStep [e] S
    show y ∈ reachStep E (reachStep [e] S)
    rcases mem_cons.mp he with rfl | h
    · -- this very edge: its target is added now, and kept by the rest of the round
      refine subset_reachStep E _ ?_
      simp only [reachStep, foldl_cons, foldl_nil, hx, if_true]
      exact mem_addNew.mpr (Or.inr rfl)
    · exact ih _ (hsub hx) h

theorem reachSet_induction {P : List Sg → Prop} {E : List (Sg × Sg)}
    (h : ∀ acc, P acc → ∀ e ∈ E, e.1 ∈ acc → e.2 ∉ acc → P (acc ++ [e.2])) (n : Nat) (S : List Sg) (hS : P S) :
    P (reachSet E n S) := by
  induction n generalizing S with
  | zero => exact hS
  | succ n ih => exact ih _ (reachStep_induction hS h)

theorem reachSet_sound (E : List (Sg × Sg)) (a : Sg) (n : Nat) : ∀ x ∈ reachSet E n [a], Reach E a x :=
  reachSet_induction (P := fun S => ∀ x ∈ S, Reach E a x)
    (fun _ hacc e he h1 _ x hx => (mem_append.mp hx).elim (hacc x) fun hx => by
      rw [mem_singleton.mp hx]; exact (hacc _ h1).step he)
    n [a] fun x hx => by rw [mem_singleton.mp hx]; exact Reach.refl a

/-- no duplicate, and only the start and targets of edges: at most `E.length + 1` nodes -/
theorem reachSet_length (E : List (Sg × Sg)) (a : Sg) (n : Nat) : (reachSet E n [a]).length ≤ E.length + 1 := by
  obtain ⟨hnd, hsub⟩ := reachSet_induction (P := fun S => S.Nodup ∧ S ⊆ a :: E.map Prod.snd)
    (fun acc ⟨hnd, hsub⟩ e he _ h2 =>
      ⟨nodup_append.mpr ⟨hnd, pairwise_singleton _ _, fun x hx y hy => by rw [mem_singleton.mp hy]; exact fun h => h2 (h ▸ hx)⟩,
        append_subset.mpr ⟨hsub, fun x hx => by
          rw [mem_singleton.mp hx]; exact mem_cons_of_mem _ (mem_map_of_mem he)⟩⟩)
    n [a] ⟨pairwise_singleton _ a, fun x hx => mem_singleton.mp hx ▸ mem_cons_self⟩
  exact Nat.le_trans (hnd.length_le_of_subset hsub) (Nat.le_of_eq (by rw [length_cons, length_map]))

theorem reachSet_fixed (E : List (Sg × Sg)) (n : Nat) (S : List Sg) (h : reachStep E S = S) : reachSet E n S = S := by
  induction n with
  | zero => rfl
  | succ n ih => rw [reachSet, h, ih]

theorem reachSet_progress (E : List (Sg × Sg)) (n : Nat) (S : List Sg) :
    reachStep E (reachSet E n S) = reachSet E n S ∨ S.length + n ≤ (reachSet E n S).length := by
  induction n generalizing S with
  | zero => exact Or.inr (Nat.le_refl _)
  | succ n ih =>
    simp only [reachSet]
    obtain ⟨d, hd⟩ := reachStep_ext E S
    cases d with
    | nil =>
      rw [append_nil] at hd
      rw [hd, reachSet_fixed E n S hd]; exact Or.inl hd
    | cons x d =>
      refine (ih (reachStep E S)).imp_right fun h => ?_
      have := congrArg length hd
      rw [length_append, length_cons] at this
      omega

theorem closed_of_fixed {E : List (Sg × Sg)} {S : List Sg} (hfix : reachStep E S = S) {a b : Sg} (ha : a ∈ S)
    (h : Reach E a b) : b ∈ S := by
  induction h with
  | refl => exact ha
  | step _ he ih => exact hfix ▸ reachStep_closes E S ih he

/-- `E.length + 1` rounds from one node reach a fixed point, since a set of at most `E.length + 1` nodes cannot have grown
`E.length + 1` times -/
theorem reaches_iff (E : List (Sg × Sg)) (a b : Sg) : reaches E a b = true ↔ Reach E a b := by
  unfold reaches
  rw [decide_eq_true_eq]
  refine ⟨reachSet_sound E a _ b, closed_of_fixed ?_ ?_⟩
  · refine (reachSet_progress E (E.length + 1) [a]).resolve_right fun h => ?_
    have := reachSet_length E a (E.length + 1)
    simp only [length_cons, length_nil] at h
    omega
  · exact reachSet_induction (P := (a ∈ ·)) (fun _ h _ _ _ _ => mem_append_left _ h) _ _ mem_cons_self

/-! ## acyclicity is kept by a guarded insertion -/

/-- no cycle: a path of at least one edge from a node to itself -/
def Acyclic (E : List (Sg × Sg)) : Prop := ∀ x y, (x, y) ∈ E → ¬ Reach E y x

theorem Acyclic.anti {E E' : List (Sg × Sg)} (h : ∀ e ∈ E, e ∈ E') (hE : Acyclic E') : Acyclic E :=
  fun x y hxy hyx => hE x y (h _ hxy) (hyx.mono h)

theorem reach_insert {E : List (Sg × Sg)} {a b x y : Sg} (h : Reach ((a, b) :: E) x y) :
    Reach E x y ∨ (Reach E x a ∧ Reach E b y) := by
  induction h with
  | refl => exact Or.inl (Reach.refl _)
  | step _ he ih =>
    rcases mem_cons.mp he with e | e
    · cases e
      exact Or.inr ⟨ih.elim id (·.1), Reach.refl _⟩
    · exact ih.imp (·.step e) (·.imp_right (·.step e))

/-- the condition under which `_structure` adds an implicit edge `a → b` (no `a ≠ b` needed: `b` reaches itself) -/
theorem guarded_insert_acyclic (E : List (Sg × Sg)) (a b : Sg) (hE : Acyclic E)
    (hg : reaches E b a = false) : Acyclic ((a, b) :: E) := by
  have hnr : ¬ Reach E b a := fun h => Bool.false_ne_true (hg ▸ (reaches_iff E b a).mpr h)
  intro x y hxy hyx
  -- a cycle through the edge x → y: either y →* x in `E`, or y →* a and b →* x
  rcases reach_insert hyx with h | ⟨h1, h2⟩
  · rcases mem_cons.mp hxy with e | e
    · cases e; exact hnr h
    · exact hE x y e h
  · rcases mem_cons.mp hxy with e | e
    · cases e; exact hnr h1
    · exact hnr ((h2.step e).trans h1)

theorem keys_kvSet_sub {κ α} [DecidableEq κ] {k x : κ} {v : α} {l : List (κ × α)}
    (h : x ∈ (kvSet l k v).map Prod.fst) : x = k ∨ x ∈ l.map Prod.fst := by
  induction l with
  | nil => exact Or.inl (by simpa [kvSet] using h)
  | cons kv l ih =>
    obtain ⟨k', v'⟩ := kv
    unfold kvSet at h
    split at h
    · subst k'; exact Or.inr h
    · rcases mem_cons.mp h with h | h
      · exact Or.inr (mem_cons.mpr (Or.inl h))
      · exact (ih h).imp_right (mem_cons_of_mem _)

/-- the loop over `start_nodes` × `l1`: every implicit edge it records passed the guard -/
theorem implicitEdges_acyclic (subSet : List Sg) (startNodes l1 : List GNode) (st : SSt) (h : Acyclic st.edgeKeys) :
    Acyclic (implicitEdges subSet startNodes l1 st).edgeKeys := by
  refine List.foldlRecOn (motive := fun (st : SSt) => Acyclic st.edgeKeys) startNodes _ h fun st hst n1 _ => ?_
  refine List.foldlRecOn (motive := fun (st : SSt) => Acyclic st.edgeKeys) l1 _ hst fun st hst n2 _ => ?_
  -- the loop body is an anonymous function of the model: its `let`s get their names here
  extract_lets k1 k2 s1 s2
  -- the two initialisations of `node_deps` do not touch the edges
  have e1 (c : Prop) [Decidable c] (s : SSt) (nd : List (Sg × List Sg)) :
      (if c then { s with nodeDeps := nd } else s).edgeKeys = s.edgeKeys := by
    split <;> rfl
  have hk2 : s2.edgeKeys = st.edgeKeys := (e1 ..).trans (e1 ..)
  rw [← hk2] at hst
  split
  · next hc =>
    refine (guarded_insert_acyclic s2.edgeKeys k1 k2 hst hc.2.2.2.2.2.2).anti fun e he => ?_
    rcases mem_append.mp he with he | he
    · exact mem_cons.mpr ((keys_kvSet_sub he).imp_right (mem_append_left _))
    · exact mem_cons_of_mem _ (mem_append_right _ he)
  · exact hst

end Dds
