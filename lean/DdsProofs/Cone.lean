import DdsProofs.EvalStep
/-!
# Edits outside the dependency cone are invisible, and the recursion bound is immaterial (C02)

`Cone W1 W2 C`: two versions of the code are the same as far as a call of a function of `C` can see, `C` being a set of names
closed under "is called / named / kept / evaluated by". `Le bad same x y` compares the results `x`, `y` of one call in the two
versions, the second with at least as much fuel: `y` is `x`, always when the fuels are the same (`same`), and otherwise
unless `x` is the model's own `outOfFuel` error (`bad x`). It is one relation with a parameter and not an order, because at
equal fuel the fuel errors agree as well, state and all, which two inequalities would not give. `Le` goes through `bind`,
`andThen`, `if` and the lookup of a callee (`Cone.find`), so the lemma of each function of the model (`*_le`) is a term that
follows the definition of the function.
-/
namespace Dds
open List

/-! The cone as a list of names, as the theorems of C02 take it. The proofs take a predicate on names (`Calls`, `Cone`), so
that all names together are a cone too (`Cone.refl`); the list form unfolds to it: `fn.callsIn cone` is
`Calls (· ∈ cone) fn.items`, and `Cone.of_list`. -/

def Fn.callsIn (fn : Fn) (cone : List String) : Prop := ∀ it ∈ fn.items, ∀ f, it.calleeName = some f → f ∈ cone

def ConeClosed (W : World) (cone : List String) : Prop := ∀ n ∈ cone, ∀ g, W.find n = some g → g.callsIn cone

def AgreeOn (W1 W2 : World) (cone : List String) : Prop := ∀ n ∈ cone, W1.find n = W2.find n

abbrev FuelErr {α} : Except DdsErr α := .error .outOfFuel

/-! ## "The same, if the fuel is the same or was enough" -/

def Le {β : Type} (bad : β → Prop) (same : Prop) (x y : β) : Prop := same ∨ ¬ bad x → y = x

abbrev FuelLe {α} (same : Prop) (x y : Except DdsErr α) : Prop := Le (· = FuelErr) same x y

abbrev XLe {α σ} (same : Prop) (r r' : Except XErr α × σ) : Prop := Le (·.1 = .error (.dds .outOfFuel)) same r r'

section
variable {α β σ : Type} {bad : β → Prop} {p q : Prop}

theorem Le.rfl {x : β} : Le bad p x x := fun _ => Eq.refl x

theorem Le.imp {x y : β} (hpq : q → p) (h : Le bad p x y) : Le bad q x y := fun hq => h (hq.imp_left hpq)

theorem Le.of_bad {x y : β} (hx : bad x) (h : p → y = x) : Le bad p x y := fun h' => h'.elim h (absurd hx)

theorem Le.ite {c : Prop} [Decidable c] {x y x' y' : β} (ht : c → Le bad p x y) (he : ¬ c → Le bad p x' y') :
    Le bad p (if c then x else x') (if c then y else y') := by
  split
  · exact ht ‹_›
  · exact he ‹_›

/- `bind` and `andThen` are in the namespace `Le`, so that `.bind` is found whether the goal reads `FuelLe` or `Le`. -/

theorem Le.bind {x y : Except DdsErr α} {f g : α → Except DdsErr β} (hx : FuelLe p x y)
    (hf : ∀ a, FuelLe p (f a) (g a)) : FuelLe p (x >>= f) (y >>= g) := by
  intro h
  cases x with
  | error e => rw [hx (h.imp_right fun h e => h (by cases e; exact Eq.refl _))]; exact Eq.refl _
  | ok a => rw [hx (.inr nofun)]; exact hf a h

theorem Le.andThen {r r' : Except XErr α × σ} {k k' : α → σ → Except XErr β × σ} (hr : XLe p r r')
    (hk : ∀ v st, XLe p (k v st) (k' v st)) : XLe p (Dds.andThen r k) (Dds.andThen r' k') := by
  intro h
  obtain ⟨_ | v, st⟩ := r
  · rw [hr (h.imp_right fun h e => h (by cases e; exact Eq.refl _))]; exact Eq.refl _
  · rw [hr (.inr nofun)]; exact hk v st h

end

/-- two bounds `n1 ≤ n2` that run down together -/
theorem le_induction {P : ∀ n1 n2 : Nat, n1 ≤ n2 → Prop} (zero : ∀ n, P 0 n (Nat.zero_le n))
    (succ : ∀ n1 n2 h, P n1 n2 h → P (n1 + 1) (n2 + 1) (Nat.succ_le_succ h)) : ∀ n1 n2 h, P n1 n2 h := by
  intro n1
  induction n1 with
  | zero => exact fun n _ => zero n
  | succ n1 ih =>
    intro n2 h
    cases n2 with
    | zero => cases h
    | succ n2 => exact succ n1 n2 _ (ih n2 (Nat.le_of_succ_le_succ h))

def Calls (C : String → Prop) (its : List Item) : Prop := ∀ it ∈ its, ∀ f, it.calleeName = some f → C f

theorem Calls.head {C : String → Prop} {it : Item} {its : List Item} (h : Calls C (it :: its)) :
    ∀ f, it.calleeName = some f → C f := h it mem_cons_self

theorem Calls.tail {C : String → Prop} {it : Item} {its : List Item} (h : Calls C (it :: its)) : Calls C its :=
  fun x hx => h x (mem_cons_of_mem _ hx)

/-- `ext`: the non-accepted code is the same -/
structure Cone (W1 W2 : World) (C : String → Prop) : Prop where
  agree : ∀ n, C n → W1.find n = W2.find n
  closed : ∀ n, C n → ∀ g, W1.find n = some g → Calls C g.items
  ext : W1.extVersion = W2.extVersion

theorem Cone.refl (W : World) : Cone W W fun _ => True := ⟨fun _ _ => rfl, fun _ _ _ _ _ _ _ _ => trivial, rfl⟩

theorem Cone.of_list {W1 W2 : World} {cone : List String} (hag : AgreeOn W1 W2 cone) (hcl : ConeClosed W1 cone)
    (hx : W1.extVersion = W2.extVersion) : Cone W1 W2 (· ∈ cone) := ⟨hag, hcl, hx⟩

theorem bodyValue_congr {W1 W2 : World} (hx : W1.extVersion = W2.extVersion) (fn : Fn) (env : Env) (results : List RVal) :
    bodyValue W1 fn env results = bodyValue W2 fn env results := by
  unfold bodyValue; rw [hx]

section
variable {m : Nat} {W1 W2 : World} {p : Prop} {C : String → Prop} (hC : Cone W1 W2 C)
include hC

theorem Cone.find {β : Type} {bad : β → Prop} {f : String} (hf : C f) {b : β} {k1 k2 : Fn → β}
    (hk : ∀ g, Calls C g.items → Le bad p (k1 g) (k2 g)) :
    Le bad p (match W1.find f with | none => b | some g => k1 g) (match W2.find f with | none => b | some g => k2 g) := by
  rw [← hC.agree f hf]
  cases hg : W1.find f with
  | none => exact .rfl
  | some g => exact hk g (hC.closed f hf g hg)

/-! ## The analysis -/

section
variable {rec1 rec2 : Analyse} {fn : Fn} {isig : Sg} {stack : List String}
  (hrec : ∀ g, Calls C g.items → ∀ refs stk ctx, FuelLe p (rec1 refs stk g ctx) (rec2 refs stk g ctx))
include hrec

theorem plain_le (st : VisitSt) {f : String} (hf : C f) (args : List AstArg) (kwargs : List (String × AstArg)) (line : Nat) :
    FuelLe p (visitItem.plain m W1 rec1 fn isig stack st f args kwargs line)
      (visitItem.plain m W2 rec2 fn isig stack st f args kwargs line) := by
  unfold visitItem.plain
  exact .bind .rfl fun ctx => hC.find hf fun g hg => .ite (fun _ => .rfl) fun _ =>
    .bind .rfl fun named => .bind (hrec g hg _ _ _) fun _ => .rfl

theorem visitItem_le (st : VisitSt) (it : Item) (hit : ∀ f, it.calleeName = some f → C f) :
    FuelLe p (visitItem m W1 rec1 fn isig stack st it) (visitItem m W2 rec2 fn isig stack st it) := by
  cases it with
  | call f l => exact plain_le hC hrec st (hit f rfl) [] [] l
  | callArgs f a k ra rk l => exact plain_le hC hrec st (hit f rfl) a k l
  | ref f l => exact .ite (fun _ => .rfl) fun _ => .bind (plain_le hC hrec st (hit f rfl) [] [] l) fun _ => .rfl
  | keep path f a k ra rk l =>
    exact .bind .rfl fun ctx => .ite (fun _ => .rfl) fun _ => hC.find (hit f rfl) fun g hg =>
      .ite (fun _ => .rfl) fun _ => .bind .rfl fun named => .bind (hrec g hg _ _ _) fun _ => .rfl
  | load path l => exact .rfl
  | evalCall f l => exact .rfl

theorem visitItems_le (its : List Item) : ∀ (st : VisitSt), Calls C its →
    FuelLe p (visitItems m W1 rec1 fn isig stack st its) (visitItems m W2 rec2 fn isig stack st its) := by
  induction its with
  | nil => exact fun _ _ => .rfl
  | cons it its ih => exact fun st h => .bind (visitItem_le hC hrec st it h.head) fun t => ih t h.tail

end

theorem analyse_le (n1 n2 : Nat) (hle : n1 ≤ n2) : ∀ (refs : Refs) (stack : List String) (fn : Fn) (ctx : ArgCtx),
    Calls C fn.items → FuelLe (n1 = n2) (analyse m W1 n1 refs stack fn ctx) (analyse m W2 n2 refs stack fn ctx) := by
  induction n1, n2, hle using le_induction with
  | zero n => exact fun _ _ _ _ _ => .of_bad rfl fun e => e ▸ rfl
  | succ n1 n2 _ ih =>
    intro refs stack fn ctx hfn
    unfold analyse
    exact .bind .rfl fun ev => .bind .rfl fun io => .bind (visitItems_le hC (fun g hg refs' stk ctx' =>
      (ih refs' stk g ctx' hg).imp Nat.succ.inj) fn.items _ hfn) fun st => .rfl

/-! ## The indirect pre-pass and the load-order check -/

section
variable {rec1 rec2 : IndRec} {stack : List String}
  (hrec : ∀ g, Calls C g.items → ∀ stk s, FuelLe p (rec1 stk s g) (rec2 stk s g))
include hrec

theorem indirect_sub_le (st : IndSt) {f : String} (hf : C f) :
    FuelLe p (indirectItems.sub W1 rec1 stack st f) (indirectItems.sub W2 rec2 stack st f) :=
  hC.find hf fun g hg => .ite (fun _ => .rfl) fun _ => hrec g hg _ _

theorem indirectItems_le (its : List Item) : ∀ (st : IndSt) (seen : List String), Calls C its →
    FuelLe p (indirectItems W1 rec1 stack st seen its) (indirectItems W2 rec2 stack st seen its) := by
  induction its with
  | nil => exact fun _ _ _ => .rfl
  | cons it its ih =>
    intro st seen h
    have sub := fun f hf => indirect_sub_le hC hrec (stack := stack) st (h.head f hf)
    cases it with
    | call f l => exact .bind (sub f rfl) fun _ => ih _ _ h.tail
    | callArgs f a k ra rk l => exact .bind (sub f rfl) fun _ => ih _ _ h.tail
    | ref f l => exact .ite (fun _ => ih _ _ h.tail) fun _ => .bind (sub f rfl) fun _ => ih _ _ h.tail
    | keep path f a k ra rk l => exact .ite (fun _ => .rfl) fun _ => .bind (sub f rfl) fun _ => ih _ _ h.tail
    | load path l => exact .ite (fun _ => .rfl) fun _ => ih _ _ h.tail
    | evalCall f l => exact .rfl

end

theorem indirectFn_le (n1 n2 : Nat) (hle : n1 ≤ n2) : ∀ (stack : List String) (st : IndSt) (fn : Fn), Calls C fn.items →
    FuelLe (n1 = n2) (indirectFn W1 n1 stack st fn) (indirectFn W2 n2 stack st fn) := by
  induction n1, n2, hle using le_induction with
  | zero n => exact fun _ _ _ _ => .of_bad rfl fun e => e ▸ rfl
  | succ n1 n2 _ ih =>
    intro stack st fn hfn
    unfold indirectFn
    exact .ite (fun _ => .rfl) fun _ => .bind (indirectItems_le hC (fun g hg stk s =>
      (ih stk s g hg).imp Nat.succ.inj) fn.items _ _ hfn) fun _ => .rfl

section
variable {stores : List String} {rec1 rec2 : OrdRec}
  (hrec : ∀ g, Calls C g.items → ∀ pr, FuelLe p (rec1 pr g) (rec2 pr g))
include hrec

theorem orderItems_le (its : List Item) : ∀ (produced : List String), Calls C its →
    FuelLe p (orderItems W1 stores rec1 produced its) (orderItems W2 stores rec2 produced its) := by
  induction its with
  | nil => exact fun _ _ => .rfl
  | cons it its ih =>
    intro produced h
    cases it with
    | load path l => exact .ite (fun _ => .rfl) fun _ => ih _ h.tail
    | evalCall f l => exact .rfl
    | _ => exact hC.find (h.head _ rfl) fun g hg => .bind (hrec g hg _) fun _ => ih _ h.tail

end

theorem orderFn_le (stores : List String) (n1 n2 : Nat) (hle : n1 ≤ n2) : ∀ (produced : List String) (fn : Fn),
    Calls C fn.items → FuelLe (n1 = n2) (orderFn W1 stores n1 produced fn) (orderFn W2 stores n2 produced fn) := by
  induction n1, n2, hle using le_induction with
  | zero n => exact fun _ _ _ => .of_bad rfl fun e => e ▸ rfl
  | succ n1 n2 _ ih =>
    intro produced fn hfn
    unfold orderFn
    exact .bind (orderItems_le hC (fun g hg pr => (ih pr g hg).imp Nat.succ.inj) fn.items _ hfn) fun _ => .rfl

/-! ## Running under dds -/

section
variable {rq : List (String × Sg)} {rec1 rec2 : RunRec}

omit hC in
theorem keepExec_le (st : XSt) (path : String) (g : Fn) (env : Env) (hrec : XLe p (rec1 st g env) (rec2 st g env)) :
    XLe p (keepExec rq rec1 st path g env) (keepExec rq rec2 st path g env) := by
  rw [keepExec_eq, keepExec_eq]
  split
  · exact .rfl
  · split
    · exact .rfl
    · exact hrec.andThen fun _ _ => .rfl

variable (hrec : ∀ g, Calls C g.items → ∀ s env, XLe p (rec1 s g env) (rec2 s g env))
include hrec

theorem runCall_le (st : XSt) {f : String} (hf : C f) (pos : List RVal) (kw : List (String × RVal)) (kp : Option String) :
    XLe p (runCall W1 rq rec1 st f pos kw kp) (runCall W2 rq rec2 st f pos kw kp) := by
  unfold runCall
  refine hC.find hf fun g hg => ?_
  cases bindRun g.params pos kw 0 with
  | none => exact .rfl
  | some env' =>
    dsimp only
    rw [runCall_kept, runCall_kept]
    cases kp.or g.storePath with
    | some w => exact keepExec_le st w g env' (hrec g hg _ _)
    | none => exact hrec g hg _ _

theorem runItemRes_le (env : Env) (st : XSt) (results : List RVal) (it : Item) (hit : ∀ f, it.calleeName = some f → C f) :
    XLe p (runItemRes W1 rq rec1 env st results it) (runItemRes W2 rq rec2 env st results it) := by
  cases it with
  | load path l => exact .rfl
  | evalCall f l => exact .rfl
  | _ => unfold runItemRes; exact runCall_le hC hrec st (hit _ rfl) _ _ _

theorem runItems_le (fn : Fn) (env : Env) (its : List Item) : ∀ (st : XSt) (results : List RVal), Calls C its →
    XLe p (runItems W1 (some rq) rec1 fn env st results its) (runItems W2 (some rq) rec2 fn env st results its) := by
  induction its with
  | nil => exact fun _ _ _ => .rfl
  | cons it its ih =>
    intro st results h
    rw [runItems_step, runItems_step]
    exact (runItemRes_le hC hrec env st results it h.head).andThen fun _ st' => ih st' _ h.tail

end

theorem runFn_le (rq : List (String × Sg)) (n1 n2 : Nat) (hle : n1 ≤ n2) : ∀ (st : XSt) (fn : Fn) (env : Env),
    Calls C fn.items → XLe (n1 = n2) (runFn W1 rq n1 st fn env) (runFn W2 rq n2 st fn env) := by
  induction n1, n2, hle using le_induction with
  | zero n => exact fun _ _ _ _ => .of_bad rfl fun e => e ▸ rfl
  | succ n1 n2 _ ih =>
    intro st fn env hfn
    rw [runFn_step, runFn_step]
    exact (runItems_le hC (fun g hg s e => (ih s g e hg).imp Nat.succ.inj) fn env fn.items _ _ hfn).andThen
      fun _ _ => by rw [bodyValue_congr hC.ext]; exact .rfl

/-! ## Plain execution -/

section
variable {rec1 rec2 : PlainRec} (hrec : ∀ g, Calls C g.items → ∀ s e, XLe p (rec1 s g e) (rec2 s g e))
include hrec

theorem callRes_le (st : PSt) {f : String} (hf : C f) (pos : List RVal) (kw : List (String × RVal)) (kp : Option String) :
    XLe p (callRes W1 rec1 st f pos kw kp) (callRes W2 rec2 st f pos kw kp) := by
  unfold callRes
  refine hC.find hf fun g hg => ?_
  cases bindRun g.params pos kw 0 with
  | none => exact .rfl
  | some env' => exact (hrec g hg _ _).andThen fun _ _ => .rfl

theorem plainItemRes_le (env : Env) (st : PSt) (results : List RVal) (it : Item) (hit : ∀ f, it.calleeName = some f → C f) :
    XLe p (plainItemRes W1 rec1 env st results it) (plainItemRes W2 rec2 env st results it) := by
  cases hc : it.callee with
  | some c =>
    obtain ⟨f, args, kwargs, rtA, rtK⟩ := c
    rw [plainItemRes_callee it hc, plainItemRes_callee it hc]
    exact callRes_le hC hrec st (hit f (Item.calleeName_of_callee hc)) _ _ _
  | none =>
    cases it with
    | load path l => exact .rfl
    | evalCall f l =>
      refine hC.find (hit f rfl) fun g hg => ?_
      cases bindRun g.params [] [] 0 with
      | none => exact .rfl
      | some env' => exact hrec g hg _ _
    | _ => cases hc

theorem plainItems_le (env : Env) (its : List Item) : ∀ (st : PSt) (results : List RVal), Calls C its →
    XLe p (plainItems W1 rec1 env st results its) (plainItems W2 rec2 env st results its) := by
  induction its with
  | nil => exact fun _ _ _ => .rfl
  | cons it its ih =>
    intro st results h
    rw [plainItems_step, plainItems_step]
    exact (plainItemRes_le hC hrec env st results it h.head).andThen fun _ st' => ih st' _ h.tail

end

theorem plainFn_le (n1 n2 : Nat) (hle : n1 ≤ n2) : ∀ (st : PSt) (fn : Fn) (env : Env),
    Calls C fn.items → XLe (n1 = n2) (plainFn W1 n1 st fn env) (plainFn W2 n2 st fn env) := by
  induction n1, n2, hle using le_induction with
  | zero n => exact fun _ _ _ _ => .of_bad rfl fun e => e ▸ rfl
  | succ n1 n2 _ ih =>
    intro st fn env hfn
    rw [plainFn_step, plainFn_step]
    exact (plainItems_le hC (fun g hg s e => (ih s g e hg).imp Nat.succ.inj) env fn.items _ _ hfn).andThen
      fun _ _ => by rw [bodyValue_congr hC.ext]; exact .rfl

/-! ## One evaluation -/

variable (hle : W1.fuel ≤ W2.fuel)
include hle

theorem analysisPhase_le (S : PStore) (rq : Request) (hrq : C rq.fn) :
    FuelLe (W1.fuel = W2.fuel) (analysisPhase m W1 S rq) (analysisPhase m W2 S rq) := by
  rw [analysisPhase_eq, analysisPhase_eq]
  refine hC.find hrq fun fn hfn => .ite (fun _ => .rfl) fun _ => .bind .rfl fun named =>
    .bind (indirectFn_le hC _ _ hle _ _ fn hfn) fun ind => .bind (orderFn_le hC _ _ _ hle _ fn hfn) fun _ =>
      .bind .rfl fun refs0 => ?_
  rw [analysisWith_eq, analysisWith_eq]
  exact .bind (analyse_le hC _ _ hle _ _ fn _ hfn) fun _ => .rfl

theorem rootRun_le (S : PStore) (paths : List (String × Sg)) (fis : FIS) (fn : Fn) (env : Env) (hfn : Calls C fn.items) :
    XLe (W1.fuel = W2.fuel) (rootRun W1 S paths fis fn env) (rootRun W2 S paths fis fn env) := by
  have hr := runFn_le hC paths _ _ hle { store := S } fn env hfn
  unfold rootRun
  split
  · exact keepExec_le _ _ fn env hr
  · split
    · exact .rfl
    · exact hr

/-- **the outcome of an evaluation depends on the cone only**, and on the recursion bound only if it is hit -/
theorem evalStep_le (S : PStore) (rq : Request) (hrq : C rq.fn) :
    Le (·.value = .error (.dds .outOfFuel)) (W1.fuel = W2.fuel) (evalStep m W1 S rq) (evalStep m W2 S rq) := by
  intro h
  have h2 := analysisPhase_le (m := m) hC hle S rq hrq (h.imp_right fun hv he => hv (by rw [evalStep_rejected he]))
  cases h1 : analysisPhase m W1 S rq with
  | error e => rw [evalStep_rejected h1, evalStep_rejected (h2.trans h1)]
  | ok r =>
    obtain ⟨fn, env, fis, paths⟩ := r
    obtain ⟨_, _, _, _, P⟩ := analysisPhase_inv h1
    by_cases hs : Stage.eval ∈ rq.stages
    · rw [evalStep_ran h1 hs] at h ⊢
      rw [evalStep_ran (h2.trans h1) hs, rootRun_le hC hle S paths fis fn env (hC.closed rq.fn hrq fn P.hfind)
        (h.imp_right fun hv he => hv ((finish_value ..).trans (congrArg (Except.map some) he)))]
    · rw [evalStep_restricted h1 hs, evalStep_restricted (h2.trans h1) hs]

end

theorem plainFn_congr {W1 W2 : World} {cone : List String} (hag : AgreeOn W1 W2 cone) (hcl : ConeClosed W1 cone)
    (hx : W1.extVersion = W2.extVersion) :
    ∀ (fuel : Nat) (st : PSt) (fn : Fn) (env : Env), fn.callsIn cone →
      plainFn W1 fuel st fn env = plainFn W2 fuel st fn env :=
  fun fuel st fn env hfn =>
    (plainFn_le (Cone.of_list hag hcl hx) fuel fuel (Nat.le_refl _) st fn env hfn (Or.inl (Eq.refl _))).symm

theorem analyse_mono_add {m : Nat} {W : World} (n k : Nat) (refs : Refs) (stack : List String) (fn : Fn) (ctx : ArgCtx)
    (r : Except DdsErr (FIS × Refs)) (h : analyse m W n refs stack fn ctx = r) (hr : r ≠ FuelErr) :
    analyse m W (n + k) refs stack fn ctx = r :=
  h ▸ analyse_le (Cone.refl W) n (n + k) (Nat.le_add_right n k) refs stack fn ctx (fun _ _ _ _ => trivial) (Or.inr (h ▸ hr))

theorem evalStep_congr_le {m : Nat} {W1 W2 : World} {cone : List String} (hag : AgreeOn W1 W2 cone)
    (hcl : ConeClosed W1 cone) (hx : W1.extVersion = W2.extVersion) (hle : W1.funs.length ≤ W2.funs.length)
    (S : PStore) (rq : Request) (hrq : rq.fn ∈ cone)
    (hv : (evalStep m W1 S rq).value ≠ .error (.dds .outOfFuel)) :
    evalStep m W1 S rq = evalStep m W2 S rq :=
  (evalStep_le (Cone.of_list hag hcl hx) (Nat.add_le_add_right hle 2) S rq hrq (Or.inr hv)).symm

end Dds
