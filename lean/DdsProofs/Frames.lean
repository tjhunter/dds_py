import DdsProofs.AnalyseInv
/-!
# Frames: what the analysis and plain execution leave alone

`paths` is the path map of the evaluation. A path that is not in the map is *external*: no call of the evaluation is kept
there. The analysis never changes what an external path resolves to (`aframe`), and plain execution never changes what the
plain state holds at an external path (`pframe`). Hence the paths a tree loads, when external, resolve everywhere in the
tree as they do at its entry (`ltree`).
-/
namespace Dds
open List

/-- an explicit `keep` is never applied to a data function (which is kept at its own path already) -/
def World.keepsPlain (W : World) : Prop :=
  ∀ f ∈ W.funs, ∀ it ∈ f.items, ∀ path g args kwargs rtA rtK l, it = Item.keep path g args kwargs rtA rtK l →
    ∀ h, W.find g = some h → h.storePath = none

/-- the node recorded for an explicit `keep` has the path of the `keep` in place of the callee's own: there is none, by
`keepsPlain`, so the tree of the callee has its kept calls in the path map if the node has -/
theorem CallStep.pathsOK {m : Nat} {W : World} (hkp : W.keepsPlain) {fuel : Nat} {fn : Fn} (hfn : fn ∈ W.funs) {isig : Sg}
    {stack : List String} {s : VisitSt} {it : Item} (hit : it ∈ fn.items) {f : String} {args kwargs rtA rtK} {g : Fn}
    {ctx named fis refs} (hc : it.callee = some (f, args, kwargs, rtA, rtK))
    (h : CallStep m W (analyse m W fuel) fn isig stack s f args kwargs it.line g ctx named fis refs)
    {paths : List (String × Sg)} (hnd : FIS.pathsOK paths (fis.kept it.keepPath)) : FIS.pathsOK paths fis := by
  cases it with
  | keep path =>
    cases hc
    rw [pathsOK_iff] at hnd ⊢
    refine ⟨fun q hq => ?_, hnd.2⟩
    rw [analyse_storePath h.sub, hkp fn hfn _ hit _ _ _ _ _ _ _ rfl g h.find] at hq
    cases hq
  | _ => exact hnd

/-! ## The analysis leaves the external paths alone -/

def External (paths : List (String × Sg)) (p : String) : Prop := aget paths p = none

def AFrame (m : Nat) (W : World) (paths : List (String × Sg)) (fuel : Nat) : Prop :=
  ∀ (refs : Refs) (stack : List String) (fn : Fn) (ctx : ArgCtx) (fis : FIS) (r : Refs), fn ∈ W.funs →
    analyse m W fuel refs stack fn ctx = .ok (fis, r) → FIS.pathsOK paths fis →
    ∀ p, External paths p → aget r p = aget refs p

theorem aget_aset_external {paths : List (String × Sg)} {q : String} {k : Sg} (hq : aget paths q = some k) {p : String}
    (hp : External paths p) {α : Type} (l : List (String × α)) (v : α) : aget (aset l q v) p = aget l p :=
  aget_aset_ne _ _ _ _ fun e => by rw [External, e, hq] at hp; cases hp

section
variable {m : Nat} {W : World} {paths : List (String × Sg)} {fuel : Nat} (hIH : AFrame m W paths fuel) (hkp : W.keepsPlain)
  {fn : Fn} (hfn : fn ∈ W.funs) {isig : Sg} {stack : List String}
include hIH hkp hfn

theorem visitItem_refs_frame {s t sfin : VisitSt} {it : Item} {its : List Item} (hit : it ∈ fn.items)
    (hv : visitItem m W (analyse m W fuel) fn isig stack s it = .ok t)
    (hr : visitItems m W (analyse m W fuel) fn isig stack t its = .ok sfin) (hok : FIS.pathsOKL paths sfin.inters)
    {p : String} (hp : External paths p) : aget t.refs p = aget s.refs p := by
  cases visitItem_inv hv with
  | load | seen => rfl
  | call hc _ hstep =>
    have hnd := pathsOKL_iff.mp hok _ (mem_inters_afterCall hr)
    have hsub := hIH _ _ _ _ _ _ (List.mem_of_find?_eq_some hstep.find) hstep.sub (hstep.pathsOK hkp hfn hit hc hnd) p hp
    unfold VisitSt.afterCall
    cases hk : Item.keepPath _ with
    | none => exact hsub
    | some path =>
      rw [hk] at hnd
      exact (aget_aset_external (((pathsOK_iff _ _).mp hnd).1 path rfl) hp _ _).trans hsub

theorem visitItems_refs_frame {its : List Item} (hits : ∀ it ∈ its, it ∈ fn.items) {s sfin : VisitSt}
    (h : visitItems m W (analyse m W fuel) fn isig stack s its = .ok sfin) (hok : FIS.pathsOKL paths sfin.inters)
    {p : String} (hp : External paths p) : aget sfin.refs p = aget s.refs p := by
  induction its generalizing s with
  | nil => cases h; rfl
  | cons it its ih =>
    obtain ⟨t, hv, hr⟩ := visitItems_cons_inv h
    exact (ih (fun x hx => hits x (mem_cons_of_mem _ hx)) hr).trans
      (visitItem_refs_frame hIH hkp hfn (hits _ mem_cons_self) hv hr hok hp)

end

theorem aframe (m : Nat) (W : World) (paths : List (String × Sg)) (hkp : W.keepsPlain) : ∀ fuel, AFrame m W paths fuel := by
  intro fuel
  induction fuel with
  | zero => exact fun _ _ _ _ _ _ _ h => absurd h analyse_zero
  | succ k ih =>
    intro refs stack fn ctx fis r hfn h hok p hp
    obtain ⟨ev, io, sv, b, d, ret, a⟩ := analyse_inv h
    obtain ⟨k1, k2⟩ := (pathsOK_iff paths fis).mp hok
    rw [a.subs] at k2
    have hfr := visitItems_refs_frame ih hkp hfn (fun _ h => h) a.hvisit k2 hp
    rw [a.hrefs]
    cases hsp : fn.storePath with
    | none => exact hfr
    | some q => exact (aget_aset_external (k1 q (a.storePath.trans hsp)) hp _ _).trans hfr

/-! ## Plain execution leaves what is kept at the external paths alone -/

def KFrame (paths : List (String × Sg)) (q q' : PSt) : Prop := ∀ p, External paths p → aget q'.kept p = aget q.kept p

theorem KFrame.refl (paths : List (String × Sg)) (q : PSt) : KFrame paths q q := fun _ _ => rfl

theorem KFrame.andThen {α β : Type} {paths : List (String × Sg)} {q : PSt} {r : Except XErr α × PSt}
    {k : α → PSt → Except XErr β × PSt} (h : KFrame paths q r.2) (hk : ∀ v, KFrame paths r.2 (k v r.2).2) :
    KFrame paths q (andThen r k).2 :=
  fun p hp => andThen_frame_at (φ := fun st : PSt => aget st.kept p) (h p hp) fun v => hk v p hp

def PFrame (m : Nat) (W : World) (paths : List (String × Sg)) (fuel : Nat) : Prop :=
  ∀ (refs : Refs) (stack : List String) (fn : Fn) (ctx : ArgCtx) (env : Env) (fis : FIS) (r : Refs) (q : PSt),
    analyse m W fuel refs stack fn ctx = .ok (fis, r) → FIS.pathsOKL paths fis.subs →
    KFrame paths q (plainFn W fuel q fn env).2

section
variable {m : Nat} {W : World} {paths : List (String × Sg)} {fuel : Nat} (hIH : PFrame m W paths fuel)
include hIH

/-- a call whose node (kept at `kp` or at the callee's own path) has its kept calls in the path map -/
theorem callRes_frame {f : String} {g : Fn} {ctx : ArgCtx} {refs : Refs} {stack : List String} {fis : FIS} {rf : Refs}
    (hfind : W.find f = some g) (ha : analyse m W fuel refs stack g ctx = .ok (fis, rf)) (kp : Option String)
    (hnd : FIS.pathsOK paths (fis.kept kp)) (q : PSt) (pos : List RVal) (kw : List (String × RVal)) :
    KFrame paths q (callRes W (plainFn W fuel) q f pos kw kp).2 := by
  obtain ⟨k1, k2⟩ := (pathsOK_kept ha paths kp).mp hnd
  cases hb : bindRun g.params pos kw 0 with
  | none => rw [callRes_unbound hfind hb]; exact KFrame.refl _ _
  | some env' =>
    rw [callRes_bound hfind hb]
    refine (hIH refs stack g ctx env' fis rf q ha k2).andThen fun v => ?_
    cases hw : kp.or g.storePath with
    | none => exact KFrame.refl _ _
    | some path => exact fun p hp => aget_aset_external (k1 path hw) hp (plainFn W fuel q g env').2.kept v

theorem plainItems_frame {fn : Fn} {isig : Sg} {stack : List String} (env : Env) (its : List Item) {s sfin : VisitSt}
    (results : List RVal) (q : PSt) (h : visitItems m W (analyse m W fuel) fn isig stack s its = .ok sfin)
    (hok : FIS.pathsOKL paths sfin.inters) (hseen : SeenIn m W fuel sfin.inters s.seen) :
    KFrame paths q (plainItems W (plainFn W fuel) env q results its).2 := by
  induction its generalizing s results q with
  | nil => exact KFrame.refl _ q
  | cons it its ih =>
    obtain ⟨t, hv, hr⟩ := visitItems_cons_inv h
    rw [plainItems_step]
    refine KFrame.andThen ?_ fun v => ih _ _ hr (hseen.step (visitItem_inv hv) fun _ => mem_inters_of_visitItems hr)
    cases visitItem_inv hv with
    | load path line => rw [plainItemRes_load_snd]; exact KFrame.refl _ _
    | seen f line hin =>
      obtain ⟨g, c, fis, rf, refs0, stack0, hfind, ha, hfin⟩ := hseen f hin
      rw [plainItemRes_callee (.ref f line) rfl]
      exact callRes_frame hIH hfind ha none (pathsOKL_iff.mp hok _ hfin) q _ _
    | call hc _ hstep =>
      rw [plainItemRes_callee it hc]
      exact callRes_frame hIH hstep.find hstep.sub _ (pathsOKL_iff.mp hok _ (mem_inters_afterCall hr)) q _ _

end

theorem pframe (m : Nat) (W : World) (paths : List (String × Sg)) : ∀ fuel, PFrame m W paths fuel := by
  intro fuel
  induction fuel with
  | zero => exact fun _ _ _ _ _ _ _ _ h => absurd h analyse_zero
  | succ k ih =>
    intro refs stack fn ctx env fis r q h hok
    obtain ⟨ev, io, sv, b, d, ret, a⟩ := analyse_inv h
    rw [a.subs] at hok
    rw [plainFn_step]
    refine KFrame.andThen (plainItems_frame ih env fn.items [] _ a.hvisit hok fun f hf => nomatch hf) fun _ => ?_
    cases fn.fails <;> exact KFrame.refl _ _

/-! ## The external paths a tree loads resolve as at its entry -/

/-- `LTree fuel`: if the plain state holds, at every external path the entry references resolve, the blob of the signature
it resolves to, then it does so at every path loaded in the analysed tree -/
def LTree (m : Nat) (W : World) (paths : List (String × Sg)) (Ω : Blobs) (K : LoadEnv) (fuel : Nat) : Prop :=
  ∀ (refs : Refs) (stack : List String) (fn : Fn) (ctx : ArgCtx) (fis : FIS) (r : Refs), fn ∈ W.funs →
    analyse m W fuel refs stack fn ctx = .ok (fis, r) → FIS.pathsOKL paths fis.subs →
    (∀ p ∈ fis.allLoads, External paths p) →
    (∀ p s, External paths p → aget refs p = some s → ∃ v, sgGet Ω s = some v ∧ aget K p = some v) →
    FIS.loadsOK Ω K fis

theorem ltree_items {m : Nat} {W : World} {paths : List (String × Sg)} {Ω : Blobs} {K : LoadEnv} {fuel : Nat}
    (hIH : LTree m W paths Ω K fuel) (hkp : W.keepsPlain) {fn : Fn} (hfW : fn ∈ W.funs) {isig : Sg} {stack : List String}
    {refs : Refs} (hK : ∀ p s, External paths p → aget refs p = some s → ∃ v, sgGet Ω s = some v ∧ aget K p = some v)
    {its : List Item} (hits : ∀ it ∈ its, it ∈ fn.items) {s sfin : VisitSt}
    (h : visitItems m W (analyse m W fuel) fn isig stack s its = .ok sfin) (hok : FIS.pathsOKL paths sfin.inters)
    (hext : ∀ p ∈ FIS.allLoadsL sfin.inters, External paths p)
    (hsr : ∀ p, External paths p → aget s.refs p = aget refs p) (hl : FIS.loadsOKL Ω K s.inters) :
    FIS.loadsOKL Ω K sfin.inters := by
  induction its generalizing s with
  | nil => cases h; exact hl
  | cons it its ih =>
    obtain ⟨t, hv, hr⟩ := visitItems_cons_inv h
    have hsr' := fun p (hp : External paths p) =>
      (visitItem_refs_frame (aframe m W paths hkp fuel) hkp hfW (hits _ mem_cons_self) hv hr hok hp).trans (hsr p hp)
    refine ih (fun y hy => hits y (mem_cons_of_mem _ hy)) hr hsr' ?_
    cases visitItem_inv hv with
    | load | seen => exact hl
    | call hc _ hstep =>
      have hin := mem_inters_afterCall hr
      have hfis := hIH s.refs _ _ _ _ _ (List.mem_of_find?_eq_some hstep.find) hstep.sub
        ((pathsOK_kept hstep.sub paths _).mp (pathsOKL_iff.mp hok _ hin)).2
        (fun p hp => hext p (allLoadsL_mem hin ((kept_allLoads ..).symm ▸ hp)))
        (fun p sg hp h => hK p sg hp (hsr p hp ▸ h))
      exact loadsOKL_append.mpr ⟨hl, (loadsOK_kept ..).mpr hfis, trivial⟩

theorem ltree (m : Nat) (W : World) (paths : List (String × Sg)) (Ω : Blobs) (K : LoadEnv) (hkp : W.keepsPlain) :
    ∀ fuel, LTree m W paths Ω K fuel := by
  intro fuel
  induction fuel with
  | zero => exact fun _ _ _ _ _ _ _ h => absurd h analyse_zero
  | succ k ih =>
    intro refs stack fn ctx fis r hfW h hok hext hK
    obtain ⟨ev, io, sv, b, d, ret, a⟩ := analyse_inv h
    rw [a.subs] at hok
    rw [loadsOK_iff, a.loads, a.subs]
    refine ⟨fun ps hps => ?_, ltree_items ih hkp hfW hK (fun _ h => h) a.hvisit hok
      (fun p hp => hext p (a.subLoads_sub p hp)) (fun _ _ => rfl) trivial⟩
    have hpe : External paths ps.1 := hext _ (by rw [a.allLoads]; exact mem_append_left _ (mem_map_of_mem hps))
    exact hK _ _ hpe (visitItems_refs_frame (aframe m W paths hkp k) hkp hfW (fun _ h => h) a.hvisit hok hpe ▸
      lookupRefs_get a.hdeps ps hps)

end Dds
