import DdsProofs.Hash
/-! `dds_hash_commut`: the order of pairs with distinct keys does not matter (`hashCommut_perm`; no other proof uses it);
equal results come from the same pairs (`hashCommut_inj`; with the list facts after it, what the injectivity of signature
composition rests on). -/
namespace Dds
open List

/-! ## The order of the pairs does not matter -/

def keyLe (p q : String × Sg) : Prop := p.1 ≤ q.1

theorem insertKey_perm (p : String × Sg) (l : List (String × Sg)) : insertKey p l ~ p :: l := by
  induction l with
  | nil => exact Perm.refl _
  | cons q qs ih =>
    rw [insertKey]
    split
    · exact Perm.refl _
    · exact (ih.cons q).trans (Perm.swap p q qs)

theorem sortKeys_perm (l : List (String × Sg)) : sortKeys l ~ l := by
  induction l with
  | nil => exact Perm.refl _
  | cons p ps ih => exact (insertKey_perm p _).trans (ih.cons p)

theorem insertKey_sorted (p : String × Sg) (l : List (String × Sg)) (h : l.Pairwise keyLe) :
    (insertKey p l).Pairwise keyLe := by
  induction l with
  | nil => exact pairwise_singleton _ _
  | cons q qs ih =>
    obtain ⟨hq, hqs⟩ := pairwise_cons.mp h
    rw [insertKey]
    split
    · next hle => exact Pairwise.cons (forall_mem_cons.mpr ⟨hle, fun a ha => String.le_trans hle (hq a ha)⟩) h
    · next hle =>
      refine Pairwise.cons (fun a ha => ?_) (ih hqs)
      rcases mem_cons.mp ((insertKey_perm p qs).subset ha) with rfl | ha
      · exact (String.le_total _ _).resolve_left hle
      · exact hq a ha

theorem sortKeys_sorted (l : List (String × Sg)) : (sortKeys l).Pairwise keyLe := by
  induction l with
  | nil => exact Pairwise.nil
  | cons p ps ih => exact insertKey_sorted p _ ih

def KeysNodup (l : List (String × Sg)) : Prop := (l.map Prod.fst).Nodup

theorem KeysNodup.eq_of_key_eq {l : List (String × Sg)} (hn : KeysNodup l) {p q : String × Sg}
    (hp : p ∈ l) (hq : q ∈ l) (hk : p.1 = q.1) : p = q := by
  have hne : l.Pairwise fun a b => a.1 ≠ b.1 := pairwise_map.mp hn
  exact Pairwise.forall_of_forall_of_flip (R := fun a b => a.1 = b.1 → a = b) (fun _ _ _ => rfl)
    (hne.imp fun h e => absurd e h) (hne.imp fun h e => absurd e.symm h) hp hq hk

theorem sortKeys_eq_of_perm {l₁ l₂ : List (String × Sg)} (h : l₁ ~ l₂) (hn : KeysNodup l₁) :
    sortKeys l₁ = sortKeys l₂ := by
  have hp : sortKeys l₁ ~ sortKeys l₂ := (sortKeys_perm l₁).trans (h.trans (sortKeys_perm l₂).symm)
  refine Perm.eq_of_pairwise (le := keyLe) ?_ (sortKeys_sorted _) (sortKeys_sorted _) hp
  intro a b ha hb hab hba
  have ha' : a ∈ l₁ := (sortKeys_perm l₁).subset ha
  have hb' : b ∈ l₁ := h.symm.subset ((sortKeys_perm l₂).subset hb)
  exact hn.eq_of_key_eq ha' hb' (String.le_antisymm hab hba)

theorem hashCommut_cons_cons (p q : String × Sg) (r : List (String × Sg)) :
    hashCommut (p :: q :: r) = some (.X (sortKeys (p :: q :: r))) := by
  obtain ⟨k, v⟩ := p
  simp [hashCommut]

theorem hashCommut_perm {l₁ l₂ : List (String × Sg)} (h : l₁ ~ l₂) (hn : KeysNodup l₁) :
    hashCommut l₁ = hashCommut l₂ := by
  rcases l₁ with _ | ⟨p, _ | ⟨q, r⟩⟩
  · rw [h.symm.eq_nil]
  · rw [perm_singleton.mp h.symm]
  · rcases l₂ with _ | ⟨a, _ | ⟨b, c⟩⟩
    · exact absurd h.eq_nil (by simp)
    · exact absurd (perm_singleton.mp h) (by simp)
    · rw [hashCommut_cons_cons, hashCommut_cons_cons, sortKeys_eq_of_perm h hn]

/-! ## The pairs can be read off the result -/

theorem hashCommut_inj {l₁ l₂ : List (String × Sg)} (h : hashCommut l₁ = hashCommut l₂) : l₁ ~ l₂ := by
  -- the result tells no pair (`none`), one pair (an `H` term) and more pairs (an `X` term) apart
  rcases l₁ with _ | ⟨⟨k, v⟩, _ | ⟨q, r⟩⟩ <;> rcases l₂ with _ | ⟨⟨k', v'⟩, _ | ⟨q', r'⟩⟩ <;>
    simp only [hashCommut, kvSg, reduceCtorEq, Option.some.injEq, Sg.H.injEq, Sg.X.injEq, cons.injEq, Part.lit.injEq,
      Part.sg.injEq, and_true] at h
  · exact Perm.refl _
  · rw [utf8_inj h.1, h.2]
  · exact (sortKeys_perm _).symm.trans (h ▸ sortKeys_perm _)

theorem eq_of_subset_of_keys_eq {l₁ l₂ : List (String × Sg)} (hs : l₁ ⊆ l₂) (hk : l₁.map Prod.fst = l₂.map Prod.fst)
    (hn : KeysNodup l₁) : l₁ = l₂ := by
  induction l₁ generalizing l₂ with
  | nil => cases l₂ with
    | nil => rfl
    | cons _ _ => cases hk
  | cons p t₁ ih => cases l₂ with
    | nil => cases hk
    | cons q t₂ =>
      obtain ⟨_, hk2⟩ := cons.inj hk
      obtain ⟨hn1, hn2⟩ := nodup_cons.mp hn
      -- `p` is not in the tail `t₂`, whose keys are those of `t₁`; no member of `t₁` is `q = p`
      cases (mem_cons.mp (hs mem_cons_self)).resolve_right fun h => hn1 (hk2 ▸ mem_map_of_mem (f := Prod.fst) h)
      rw [ih (fun x hx => (mem_cons.mp (hs (mem_cons_of_mem _ hx))).resolve_left
        fun e => hn1 (e ▸ mem_map_of_mem (f := Prod.fst) hx)) hk2 hn2]

theorem mem_iff_of_map_perm {α β} {f : α → β} (hf : ∀ a b, f a = f b → a = b) {l l' : List α}
    (h : l.map f ~ l'.map f) (a : α) : a ∈ l ↔ a ∈ l' := by
  have key : ∀ {l l' : List α}, l.map f ~ l'.map f → a ∈ l → a ∈ l' := by
    intro l l' h ha
    obtain ⟨b, hb, e⟩ := mem_map.mp (h.subset (mem_map_of_mem ha))
    exact hf b a e ▸ hb
  exact ⟨key h, key h.symm⟩

theorem prefixKey_inj {α} (pre : String) {g : α → Sg} (hg : ∀ x y, g x = g y → x = y) :
    ∀ a b : String × α, (pre ++ a.1, g a.2) = (pre ++ b.1, g b.2) → a = b := by
  intro a b h
  simp only [Prod.mk.injEq] at h
  exact Prod.ext ((String.append_right_inj _).mp h.1) (hg _ _ h.2)

theorem prefixKey_perm_eq (pre : String) {c₁ c₂ : List (String × Sg)} (hnames : c₁.map Prod.fst = c₂.map Prod.fst)
    (hnd : KeysNodup c₁) (hp : c₁.map (fun p => (pre ++ p.1, p.2)) ~ c₂.map (fun p => (pre ++ p.1, p.2))) : c₁ = c₂ :=
  eq_of_subset_of_keys_eq (fun x hx => (mem_iff_of_map_perm (prefixKey_inj pre fun _ _ e => e) hp x).mp hx) hnames hnd

end Dds
