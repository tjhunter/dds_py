import DdsProofs.Shape
import DdsProofs.Args
/-!
# A signature determines the parameter values (`env_sound`)

`Chain` describes how a call comes to be analysed *and* run inside an evaluation: either all its arguments are
known to the analysis (entry call, literals, defaults: `Chain.const`), or some argument is computed at run time
and the analysis uses the context signature of the call site (`Chain.site`).

`env_sound`: two chained calls — possibly in two versions of the code — with the same parameters and the same
argument pairs in their signatures are run with the same parameter values. Together with `sig_sound` this gives
`sig_sound_full`: equal return signatures ⇒ equal plain values.
-/
namespace Dds
open List

theorem contextSig_inj {b1 b2 i1 i2 : Sg} {o1 o2 : Option Sg} (h : contextSig b1 i1 o1 = contextSig b2 i2 o2) :
    b1 = b2 ∧ i1 = i2 ∧ o1 = o2 := by
  have hp := hashCommut_inj h
  -- as many pairs on both sides; then the same distinct keys in the same order
  cases o1 <;> cases o2
  · cases eq_of_subset_of_keys_eq hp.subset rfl (by simp [KeysNodup]); exact ⟨rfl, rfl, rfl⟩
  · exact absurd hp.length_eq (by simp)
  · exact absurd hp.length_eq (by simp)
  · cases eq_of_subset_of_keys_eq hp.subset rfl (by simp [KeysNodup]); exact ⟨rfl, rfl, rfl⟩

theorem contextSig_isSome (b i : Sg) (o : Option Sg) : ∃ k, contextSig b i o = some k := by
  unfold contextSig
  cases o with
  | none => exact ⟨_, rfl⟩
  | some h => exact ⟨_, rfl⟩

/-- `hJoin []`, the input signature of a caller without inputs, is never a result of `dds_hash_commut` -/
theorem hashCommut_ne_hJoin_nil {l : List (String × Sg)} {s : Sg} (h : hashCommut l = some s) : s ≠ hJoin [] := by
  -- `hJoin []` is `H []`; one pair gives `H [lit k, sg v]`, more pairs an `X` term
  rcases l with _ | ⟨⟨k, v⟩, _ | ⟨q, r⟩⟩
  · cases h
  · cases h
    exact fun e => nomatch e
  · cases h
    exact fun e => nomatch e

theorem hashCommut_getD_inj {l1 l2 : List (String × Sg)}
    (h : (hashCommut l1).getD (hJoin []) = (hashCommut l2).getD (hJoin [])) : hashCommut l1 = hashCommut l2 := by
  cases e1 : hashCommut l1 <;> cases e2 : hashCommut l2 <;> simp only [e1, e2, Option.getD_none, Option.getD_some] at h
  · rfl
  · exact absurd h.symm (hashCommut_ne_hJoin_nil e2)
  · exact absurd h (hashCommut_ne_hJoin_nil e1)
  · rw [h]

theorem inputSig_argPairs {a1 a2 : ArgCtx} {ed1 ed2 : List (String × String)} {ev1 ev2 : List (String × Sg)}
    {io1 io2 : Option Sg} {pa1 pa2 : List (String × Sg)}
    (h1 : buildReturnSig none a1 [] [] ed1 ev1 = .ok io1) (h2 : buildReturnSig none a2 [] [] ed2 ev2 = .ok io2)
    (hp1 : argPairs a1 = .ok pa1) (hp2 : argPairs a2 = .ok pa2)
    (h : io1.getD (hJoin []) = io2.getD (hJoin [])) : pa1 ~ pa2 := by
  have hio : io1 = io2 := by
    cases (buildReturnSig_eq none a1 [] [] ed1 ev1 pa1 hp1).symm.trans h1
    cases (buildReturnSig_eq none a2 [] [] ed2 ev2 pa2 hp2).symm.trans h2
    exact hashCommut_getD_inj h
  exact (buildReturnSig_inj _ _ _ _ _ _ _ _ _ _ _ _ _ _ hp1 hp2 (h1.trans (hio ▸ h2.symm))).2.1

/-! ## Call chains -/

/-- parameter values known to the analysis: name, value, hash of the value -/
abbrev Vals := List (String × PyVal × Sg)
def Vals.named (v : Vals) : List (String × Option Sg) := v.map (fun x => (x.1, some x.2.2))
def Vals.env (v : Vals) : Env := v.map (fun x => (x.1, RVal.py x.2.1))
def Vals.hashes (v : Vals) : List (String × Sg) := v.map (fun x => (x.1, x.2.2))

inductive Chain (U : Universe) (m : Nat) (Ω : Blobs) : World → Fn → ArgCtx → Env → Prop
  /-- every parameter value is known to the analysis (entry call; literals and defaults) -/
  | const (W : World) (fn : Fn) (inner : Option Sg) (vals : Vals) :
      vals.map (fun x => x.1) = fn.params.map Param.name →
      (∀ x ∈ vals, ddsHash m x.2.1 = .ok x.2.2 ∧ U.avals x.2.1) →
      Chain U m Ω W fn ⟨vals.named, inner⟩ vals.env
  /-- some argument is computed at run time: the analysis uses the context signature of the call site -/
  | site (W : World) (caller : Fn) (cctx : ArgCtx) (cenv : Env) (fuel : Nat) (stack : List String) (refs : Refs)
      (pre : List Item) (it : Item) (post : List Item) (st : VisitSt) (results : List RVal) (p : PSt)
      (f : String) (args : List AstArg) (kwargs : List (String × AstArg)) (rtA : List (Option RtExpr))
      (rtK : List (String × Option RtExpr)) (g : Fn) (k : Sg) (named : List (String × Option Sg)) (fis : FIS)
      (rf : Refs) (env' : Env) (ev : List (String × Sg)) (io : Option Sg) :
      Chain U m Ω W caller cctx cenv → U.world W → U.fns caller →
      caller.items = pre ++ it :: post →
      hashVars m caller.vars = .ok ev →
      buildReturnSig none cctx [] [] caller.exts ev = .ok io →
      visitItems m W (analyse m W fuel) caller (io.getD (hJoin [])) stack { refs := refs } pre = .ok st →
      (plainItems W (plainFn W fuel) cenv p [] pre).1 = .ok results →
      -- the plain state the body was run from holds, at every path loaded so far, the blob of the signature it resolved to
      FIS.loadsOKL Ω p.kept st.inters →
      (∀ path ∈ st.loads, ∃ s v, aget st.refs path = some s ∧ sgGet Ω s = some v ∧ aget p.kept path = some v) →
      it.callee = some (f, args, kwargs, rtA, rtK) →
      CallStep m W (analyse m W fuel) caller (io.getD (hJoin [])) stack st f args kwargs it.line g (some k) named fis rf →
      allSome named = none →
      bindRun g.params (zipArgs results cenv args rtA) (zipKw results cenv kwargs rtK) 0 = some env' →
      Chain U m Ω W g ⟨named, some k⟩ env'

theorem Vals.hashes_fst (v : Vals) : v.hashes.map Prod.fst = v.map (fun x => x.1) := by
  rw [Vals.hashes, map_map]
  rfl

theorem argPairs_const (v : Vals) (i : Option Sg) :
    argPairs ⟨v.named, i⟩ = .ok (v.hashes.map (fun p => ("arg_" ++ p.1, p.2))) := by
  have : v.named = v.hashes.map (fun p => (p.1, some p.2)) := by
    simp only [Vals.named, Vals.hashes, map_map, Function.comp_def]
  rw [this]
  exact argPairs_known _ _

theorem argPairs_site {named : List (String × Option Sg)} {k : Sg} (h : allSome named = none) :
    argPairs ⟨named, some k⟩ = .ok [("arg_context", k)] := by
  simp only [argPairs, h]

theorem vals_env_eq (U : Universe) {m : Nat} (v w : Vals) (he : v.hashes = w.hashes)
    (hv : ∀ x ∈ v, ddsHash m x.2.1 = .ok x.2.2 ∧ U.avals x.2.1) (hw : ∀ x ∈ w, ddsHash m x.2.1 = .ok x.2.2 ∧ U.avals x.2.1) :
    v.env = w.env := by
  induction v generalizing w with
  | nil => cases w with
    | nil => rfl
    | cons _ _ => cases he
  | cons x v ih => cases w with
    | nil => cases he
    | cons y w =>
      obtain ⟨n, a, h⟩ := x
      obtain ⟨n', b, h'⟩ := y
      obtain ⟨e1, e2⟩ := cons.inj he
      cases e1
      obtain ⟨h1, a1⟩ := hv _ mem_cons_self
      obtain ⟨h2, a2⟩ := hw _ mem_cons_self
      cases U.argsInj a b a1 a2 (ddsHash_inj h1 h2)
      exact congrArg (_ :: ·) (ih w e2 (fun x hx => hv x (mem_cons_of_mem _ hx)) fun x hx => hw x (mem_cons_of_mem _ hx))

/-! ## Lemmas for the call-site case -/

theorem siteCtx_inv {m : Nat} {fn : Fn} {isig : Sg} {inters : List FIS} {line : Nat} {refs : Refs} {loads : List String}
    {c : Option Sg} (h : siteCtx m fn isig inters line refs loads = .ok c) :
    ∃ bh, hashLines m (fn.lines.take (line + 1)) = .ok bh ∧
      c = contextSig bh isig (hashCommut (fisSigList (inters.map FIS.retSig) ++ loadsSigList refs (dedupStr loads))) := by
  unfold siteCtx at h
  obtain ⟨bh, hb, h⟩ := bind_ok h
  simp only [pure, Except.pure, Except.ok.injEq] at h
  exact ⟨bh, hb, h.symm⟩

theorem filter_le_split {items pre post : List Item} {it : Item} (hs : items.Pairwise (fun a b => a.line < b.line))
    (h : items = pre ++ it :: post) : items.filter (fun x => x.line ≤ it.line) = pre ++ [it] := by
  subst h
  obtain ⟨_, hcons, hcross⟩ := pairwise_append.mp hs
  rw [filter_append, filter_cons_of_pos (by simp),
    filter_eq_self.mpr fun a ha => decide_eq_true (Nat.le_of_lt (hcross a ha it mem_cons_self)),
    filter_eq_nil_iff.mpr fun a ha h => Nat.not_le_of_gt ((pairwise_cons.mp hcons).1 a ha) (of_decide_eq_true h)]

/-- what `prefixFaithful` says of items that stand in line order (`sorted`) inside the text (`lineBound`) -/
theorem Universe.prefix_eq (U : Universe) {f g : Fn} (hf : U.fns f) (hg : U.fns g) {pre post pre' post' : List Item}
    {it it' : Item} (hi : f.items = pre ++ it :: post) (hi' : g.items = pre' ++ it' :: post')
    (h : f.lines.take (it.line + 1) = g.lines.take (it'.line + 1)) : f.params = g.params ∧ pre = pre' ∧ it = it' := by
  have hline : it.line = it'.line := by
    have := congrArg length h
    rw [length_take, length_take, Nat.min_eq_left (U.lineBound f hf it (hi ▸ mem_append_right _ mem_cons_self)),
      Nat.min_eq_left (U.lineBound g hg it' (hi' ▸ mem_append_right _ mem_cons_self))] at this
    exact Nat.succ.inj this
  rw [← hline] at h
  obtain ⟨hpar, hfilt⟩ := U.prefixFaithful f g it.line hf hg h
  rw [filter_le_split (U.sorted f hf) hi, hline, filter_le_split (U.sorted g hg) hi'] at hfilt
  exact ⟨hpar, append_inj_left' hfilt rfl, (cons.inj (append_inj_right' hfilt rfl)).1⟩

/-- known arguments and a call-site context never give the same argument pairs: no parameter is called `context` -/
theorem const_site_absurd (U : Universe) {fn : Fn} (hU : U.fns fn) {vals : Vals} {k : Sg}
    (hnames : vals.map (fun x => x.1) = fn.params.map Param.name)
    (hp : vals.hashes.map (fun p => ("arg_" ++ p.1, p.2)) ~ [("arg_context", k)]) : False := by
  obtain ⟨_, hx, e⟩ := mem_map.mp (hp.symm.subset mem_cons_self)
  obtain ⟨y, hy, rfl⟩ := mem_map.mp hx
  obtain ⟨p, hp1, hp2⟩ := mem_map.mp (hnames ▸ mem_map_of_mem (f := fun x : String × PyVal × Sg => x.1) hy)
  exact U.noCtxParam fn hU p hp1 (hp2.trans ((String.append_right_inj "arg_").mp ((congrArg Prod.fst e).trans (by simp))))

theorem loadsSigList_eq (refs : Refs) (ps : List String) :
    loadsSigList refs ps = ps.filterMap fun p => (aget refs p).map fun s => ("dep_" ++ p, s) := by
  induction ps with
  | nil => rfl
  | cons p ps ih => rw [loadsSigList, filterMap_cons, ← ih]; cases aget refs p <;> rfl

theorem mem_loadsSigList {refs : Refs} {k : String} {s : Sg} {ps : List String} :
    (k, s) ∈ loadsSigList refs ps ↔ ∃ p ∈ ps, k = "dep_" ++ p ∧ aget refs p = some s := by
  simp only [loadsSigList_eq, mem_filterMap, Option.map_eq_some_iff, Prod.mk.injEq]
  exact ⟨fun ⟨p, hp, _, hs, hk, e⟩ => ⟨p, hp, hk.symm, e ▸ hs⟩, fun ⟨p, hp, hk, hs⟩ => ⟨p, hp, s, hs, hk.symm, rfl⟩⟩

theorem loadsSigList_cat (refs : Refs) (ps : List String) : inCat 2 (loadsSigList refs ps) := by
  intro kv hkv
  obtain ⟨k, s⟩ := kv
  obtain ⟨p, _, hk, _⟩ := mem_loadsSigList.mp hkv
  simp only [hk]; exact keyCat_dep p

theorem inter_hash_split {sigs1 sigs2 : List Sg} {refs1 refs2 : Refs} {l1 l2 : List String}
    (h : hashCommut (fisSigList sigs1 ++ loadsSigList refs1 l1) = hashCommut (fisSigList sigs2 ++ loadsSigList refs2 l2)) :
    sigs1 = sigs2 ∧ loadsSigList refs1 l1 ~ loadsSigList refs2 l2 := by
  -- the pairs of one category of `keyCat`: 3 is `fun_dep_*` (the calls so far), 2 is `dep_*` (the paths loaded so far)
  have f := fun c => (hashCommut_inj h).filter (fun kv => keyCat kv.1 == c)
  simp only [filter_append, (fisSigList_cat _).filter, (loadsSigList_cat _ _).filter] at f
  exact ⟨fisSigList_perm_eq _ _ (by simpa using f 3), by simpa using f 2⟩

theorem Chain.mono {U : Universe} {m : Nat} {Ω Ω' : Blobs} (h : ∀ s v, sgGet Ω s = some v → sgGet Ω' s = some v)
    {W : World} {fn : Fn} {ctx : ArgCtx} {env : Env} (c : Chain U m Ω W fn ctx env) : Chain U m Ω' W fn ctx env := by
  induction c with
  | const fn inner vals hnames hvals => exact Chain.const W fn inner vals hnames hvals
  | site caller cctx cenv fuel stack refs pre it post st results p f args kwargs rtA rtK g k named fis rf env' ev io
      hch hW hUc hitems hev hio hvis hres hlo hlown hcallee hstep hnone hbind ih =>
    refine Chain.site W caller cctx cenv fuel stack refs pre it post st results p f args kwargs rtA rtK g k named fis rf env' ev io
      ih hW hUc hitems hev hio hvis hres (loadsOKL_mono h _ hlo) ?_ hcallee hstep hnone hbind
    intro path hp
    obtain ⟨s, v, h1, h2, h3⟩ := hlown path hp
    exact ⟨s, v, h1, h _ _ h2, h3⟩

theorem env_sound (U : Universe) (m : Nat) {Ω : Blobs} {W1 : World} {fn1 : Fn} {ctx1 : ArgCtx} {env1 : Env}
    (h1 : Chain U m Ω W1 fn1 ctx1 env1) :
    ∀ {W2 : World} {fn2 : Fn} {ctx2 : ArgCtx} {env2 : Env}, Chain U m Ω W2 fn2 ctx2 env2 →
      W1.extVersion = W2.extVersion → U.fns fn1 → U.fns fn2 → fn1.params = fn2.params →
      ∀ pa1 pa2, argPairs ctx1 = .ok pa1 → argPairs ctx2 = .ok pa2 → pa1 ~ pa2 → env1 = env2 := by
  induction h1 with
  | const fn inner vals hnames hvals =>
    intro W2 fn2 ctx2 env2 h2 hext hU1 hU2 hpar pa1 pa2 hp1 hp2 hperm
    cases (argPairs_const vals inner).symm.trans hp1
    cases h2 with
    | const fn' inner' vals' hnames' hvals' =>
      cases (argPairs_const vals' inner').symm.trans hp2
      refine vals_env_eq U vals vals' (prefixKey_perm_eq "arg_" ?_ ?_ hperm) hvals hvals'
      · rw [Vals.hashes_fst, Vals.hashes_fst, hnames, hnames', hpar]
      · rw [KeysNodup, Vals.hashes_fst, hnames]; exact U.paramNames fn hU1
    | site caller cctx cenv fuel stack refs pre it post st results p f args kwargs rtA rtK g k named fis rf env' ev io
        hch hW hUc hitems hev hio hvis hres hlo hlown hcallee hstep hnone hbind =>
      cases (argPairs_site hnone).symm.trans hp2
      exact (const_site_absurd U hU1 hnames hperm).elim
  | site caller cctx cenv fuel stack refs pre it post st results p f args kwargs rtA rtK g k named fis rf env' ev io
      hch hW hUc hitems hev hio hvis hres hlo hlown hcallee hstep hnone hbind ih =>
    intro W2 fn2 ctx2 env2 h2 hext hU1 hU2 hpar pa1 pa2 hp1 hp2 hperm
    cases (argPairs_site hnone).symm.trans hp1
    cases h2 with
    | const fn' inner' vals' hnames' hvals' =>
      cases (argPairs_const vals' inner').symm.trans hp2
      exact (const_site_absurd U hU2 hnames' hperm.symm).elim
    | site caller' cctx' cenv' fuel' stack' refs' pre' it' post' st' results' p' f' args' kwargs' rtA' rtK' g' k' named' fis' rf' env'' ev' io'
        hch' hW' hUc' hitems' hev' hio' hvis' hres' hlo' hlown' hcallee' hstep' hnone' hbind' =>
      cases (argPairs_site hnone').symm.trans hp2
      -- the two context signatures are equal: same text up to the call, same input signature of the callers, same
      -- interaction hash
      cases perm_singleton.mp hperm
      obtain ⟨bh, hb, hc⟩ := siteCtx_inv hstep.site
      obtain ⟨bh', hb', hc'⟩ := siteCtx_inv hstep'.site
      obtain ⟨rfl, e2, e3⟩ := contextSig_inj (hc.symm.trans hc')
      -- same text: the same call after the same items, in callers with the same parameters
      obtain ⟨hcpar, rfl, rfl⟩ := U.prefix_eq hUc hUc' hitems hitems' (hashLines_inj hb hb')
      cases hcallee.symm.trans hcallee'
      -- same input signature: the callers were run with the same parameter values
      obtain ⟨cpa, hcpa⟩ := buildReturnSig_argPairs hio
      obtain ⟨cpa', hcpa'⟩ := buildReturnSig_argPairs hio'
      cases ih hch' hext hUc hUc' hcpar cpa cpa' hcpa hcpa' (inputSig_argPairs hio hio' hcpa hcpa' e2)
      -- same interaction hash: the calls before this one have the same signatures, so the items before it were analysed in
      -- lock step, and the paths loaded so far resolve to the same signatures: the two plain states agree on everything
      -- loaded before this call, hence the same results
      obtain ⟨hsigs, hdeps⟩ := inter_hash_split e3
      have L := lockStep_of_visit hvis hvis' rfl rfl hsigs
      have hag : KAgree (st.loads ++ FIS.allLoadsL st.inters) p p' := by
        intro path hp
        rcases mem_append.mp hp with hp | hp
        · obtain ⟨s, v, r1, r2, r3⟩ := hlown path hp
          obtain ⟨path', hp', hk', hr'⟩ := mem_loadsSigList.mp
            (hdeps.subset (mem_loadsSigList.mpr ⟨path, (mem_dedupStr path _).mpr hp, rfl, r1⟩))
          cases (String.append_right_inj _).mp hk'
          obtain ⟨s', v', r1', r2', r3'⟩ := hlown' path ((mem_dedupStr path _).mp hp')
          cases hr'.symm.trans r1'
          rw [r3, r3', ← r2, ← r2']
        · exact loadsOKL_agree _ _ (L.shape U (sig_shape U m fuel) hW hW' trivial) hlo hlo' path hp
      have hls := (L.values U (sig_sound U m fuel) hW hW' hext cenv _ (fun x hx => mem_append_left _ hx)
        (fun x hx => mem_append_right _ hx) (fun f hf => nomatch hf) [] p p' hag).1
      cases Except.ok.inj (hres.symm.trans (hls.trans hres'))
      exact Option.some.inj (hbind.symm.trans (hpar ▸ hbind'))

/-- **`sig_sound`, code and arguments together** (`C01.sig_sound` is this theorem). Two calls made inside evaluations — of
any two versions of the code from the universe, at any depth, with literal, default or run-time arguments, loading paths or
not — to which the analysis gives the same return signature return the same value (or raise the same exception) under
plain execution, when run from plain states that hold, at every path the calls load, the blob of the signature the path
resolved to (with respect to one blob map). -/
theorem sig_sound_full (U : Universe) (m : Nat) {Ω : Blobs} {W1 W2 : World} {fn1 fn2 : Fn} {ctx1 ctx2 : ArgCtx} {env1 env2 : Env}
    (c1 : Chain U m Ω W1 fn1 ctx1 env1) (c2 : Chain U m Ω W2 fn2 ctx2 env2)
    (hW1 : U.world W1) (hW2 : U.world W2) (hext : W1.extVersion = W2.extVersion) (hU1 : U.fns fn1) (hU2 : U.fns fn2)
    {fuel1 fuel2 : Nat} {refs1 refs2 : Refs} {stack1 stack2 : List String} {fis1 fis2 : FIS} {r1 r2 : Refs}
    (h1 : analyse m W1 fuel1 refs1 stack1 fn1 ctx1 = .ok (fis1, r1))
    (h2 : analyse m W2 fuel2 refs2 stack2 fn2 ctx2 = .ok (fis2, r2))
    (hs : fis1.retSig = fis2.retSig) (p1 p2 : PSt)
    (hl1 : FIS.loadsOK Ω p1.kept fis1) (hl2 : FIS.loadsOK Ω p2.kept fis2) :
    (plainFn W1 fuel1 p1 fn1 env1).1 = (plainFn W2 fuel2 p2 fn2 env2).1 := by
  obtain ⟨hcode, pa1, pa2, hp1, hp2, hperm⟩ := sig_call U h1 h2 hU1 hU2 hs
  cases env_sound U m c1 c2 hext hU1 hU2 (congrArg Code.params hcode) pa1 pa2 hp1 hp2 hperm
  have hsh := sig_shape U m fuel1 fuel2 W1 W2 _ _ _ _ fn1 fn2 _ _ fis1 fis2 _ _ hW1 hW2 hU1 hU2 h1 h2 hs
  exact (sig_sound U m fuel1 fuel2 W1 W2 _ _ _ _ fn1 fn2 _ _ env1 fis1 fis2 _ _ p1 p2 hW1 hW2 hext hU1 hU2 h1 h2 hs
    (loadsOK_agree fis1 fis2 hsh hl1 hl2)).1

end Dds
