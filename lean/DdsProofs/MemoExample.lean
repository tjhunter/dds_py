import DdsProofs.History
/-!
# Non-vacuity of `memo_correct` / `history_value`

A concrete universe, with every hypothesis of `Universe` proved: two versions of a pipeline (the body of the callee `f1` is
edited between them) and a reader that loads one of the paths the pipeline keeps. The history: version 1 of the pipeline, the
reader (it loads `/q`, committed by the evaluation before), version 2 of the pipeline against the same store, the reader again.
The model's own computation of that history (`computed`, evaluated by the kernel) shows the analysis succeeding, the edited
function re-run, the reader re-run because the path it loads serves another result, and the values being the plain ones.
-/
namespace Dds.Example
open Dds List

def leafA : Fn :=
  { name := "f1", lines := ["def f1(a):", "    return term('f1#0', a)", ""], tag := "f1#0",
    params := [{ name := "a" }], storePath := none, vars := [], exts := [], items := [], fails := none, usesExt := false }

def leafB : Fn :=
  { name := "f1", lines := ["def f1(a):", "    return term('f1#1', a)", ""], tag := "f1#1",
    params := [{ name := "a" }], storePath := none, vars := [], exts := [], items := [], fails := none, usesExt := false }

def root : Fn :=
  { name := "f0",
    lines := ["def f0():", "    r0 = dds.keep('/p', f1, 1)", "    r1 = dds.keep('/q', f1, rt(r0))", "    return term('f0#0', r0, r1)", ""],
    tag := "f0#0", params := [], storePath := none, vars := [], exts := [],
    items := [.keep "/p" "f1" [.const (.int 1)] [] [none] [] 1,
              .keep "/q" "f1" [.other] [] [some { rs := [0], ps := [] }] [] 2],
    fails := none, usesExt := false }

def reader : Fn :=
  { name := "c0", lines := ["def c0():", "    r0 = dds.load('/q')", "    return term('c0#0', r0)", ""], tag := "c0#0",
    params := [], storePath := none, vars := [], exts := [], items := [.load "/q" 1], fails := none, usesExt := false }

def W1 : World := { funs := [root, leafA, reader], extVersion := 0 }
def W2 : World := { funs := [root, leafB, reader], extVersion := 0 }
def rq : Request := { kind := .eval, fn := "f0" }
def rqR : Request := { kind := .keep "/c", fn := "c0" }

def U : Universe where
  fns f := f = root ∨ f = leafA ∨ f = leafB ∨ f = reader
  vals v := v = .int 1
  avals v := v = .int 1
  faithful := by
    -- any two of the four texts differ in their second line
    rintro f g (rfl | rfl | rfl | rfl) (rfl | rfl | rfl | rfl) h <;>
      first | rfl | exact absurd (List.cons.inj (List.cons.inj h).2).1 (by simp)
  varsInj := fun _ _ hv hw _ => hv.trans hw.symm
  argsInj := fun _ _ hv hw _ => hv.trans hw.symm
  varsIn := by
    intro f hf nv h
    rcases hf with rfl | rfl | rfl | rfl <;> simp [root, leafA, leafB, reader] at h
  varNames := by
    intro f hf
    rcases hf with rfl | rfl | rfl | rfl <;> decide
  noEval := by
    intro f hf it h
    rcases hf with rfl | rfl | rfl | rfl
    · simp only [root, mem_cons, not_mem_nil, or_false] at h
      rcases h with rfl | rfl <;> simp [Item.isEval]
    · simp [leafA] at h
    · simp [leafB] at h
    · simp only [reader, mem_cons, not_mem_nil, or_false] at h
      subst h
      simp [Item.isEval]
  constsIn := by
    intro f hf it h v hv
    rcases hf with rfl | rfl | rfl | rfl
    · simp only [root, mem_cons, not_mem_nil, or_false] at h
      rcases h with rfl | rfl
      · simpa [Item.hasConst] using hv
      · simp [Item.hasConst] at hv
    · simp [leafA] at h
    · simp [leafB] at h
    · simp only [reader, mem_cons, not_mem_nil, or_false] at h
      subst h
      simp [Item.hasConst] at hv
  defaultsIn := by
    intro f hf p hp d hd
    rcases hf with rfl | rfl | rfl | rfl
    · simp [root] at hp
    · simp only [leafA, mem_cons, not_mem_nil, or_false] at hp
      subst hp
      simp at hd
    · simp only [leafB, mem_cons, not_mem_nil, or_false] at hp
      subst hp
      simp at hd
    · simp [reader] at hp
  plainParams := by
    intro f hf
    rcases hf with rfl | rfl | rfl | rfl <;> decide
  paramNames := by
    intro f hf
    rcases hf with rfl | rfl | rfl | rfl <;> decide
  noCtxParam := by
    intro f hf
    rcases hf with rfl | rfl | rfl | rfl <;> decide
  sorted := by
    intro f hf
    rcases hf with rfl | rfl | rfl | rfl <;> decide
  lineBound := by
    intro f hf
    rcases hf with rfl | rfl | rfl | rfl <;> decide
  prefixFaithful := by
    -- the two versions of `f1` have the same parameters and no items; any other two functions differ in their first line
    rintro f g n (rfl | rfl | rfl | rfl) (rfl | rfl | rfl | rfl) h <;>
      first | exact ⟨rfl, rfl⟩ | exact absurd (List.cons.inj h).1 (by simp)

theorem world_ok {leaf : Fn} (h : leaf = leafA ∨ leaf = leafB) : U.world { funs := [root, leaf, reader], extVersion := 0 } := by
  intro f hf
  simp only [mem_cons, not_mem_nil, or_false] at hf
  rcases hf with rfl | rfl | rfl
  · exact .inl rfl
  · exact .inr (h.elim .inl fun e => .inr (.inl e))
  · exact .inr (.inr (.inr rfl))

/-- `keep` is applied to `f1` only, which is not a data function -/
theorem keepsPlain {leaf : Fn} (hn : leaf.name = "f1") (hi : leaf.items = []) (hs : leaf.storePath = none) :
    World.keepsPlain { funs := [root, leaf, reader], extVersion := 0 } := by
  intro f hf it hit path g args kwargs rtA rtK l e h hfind
  simp only [mem_cons, not_mem_nil, or_false] at hf
  rcases hf with rfl | rfl | rfl
  · simp only [root, mem_cons, not_mem_nil, or_false] at hit
    rcases hit with rfl | rfl
    all_goals
      simp only [Item.keep.injEq] at e
      obtain ⟨_, rfl, _⟩ := e
      simp [World.find, root, hn] at hfind
      subst hfind
      exact hs
  · rw [hi] at hit
    cases hit
  · simp only [reader, mem_cons, not_mem_nil, or_false] at hit
    subst hit
    cases e

theorem ctx1 : EvalCtx U 0 W1 := ⟨world_ok (.inl rfl), rfl, keepsPlain rfl rfl rfl⟩
theorem ctx2 : EvalCtx U 0 W2 := ⟨world_ok (.inr rfl), rfl, keepsPlain rfl rfl rfl⟩

theorem request_ok : U.request rq := ⟨fun a h => by simp [rq] at h, fun a h => by simp [rq] at h⟩
theorem requestR_ok : U.request rqR := ⟨fun a h => by simp [rqR] at h, fun a h => by simp [rqR] at h⟩

def hist : List HStep := [⟨W1, rq⟩, ⟨W1, rqR⟩, ⟨W2, rq⟩]

def h0 : HState := { store := {}, kept := [] }

def valueIs (o : Outcome) (s : String) : Bool :=
  match o.value with
  | .ok (some (.str t)) => t == s
  | _ => false

def phaseOk (r : Except DdsErr (Fn × Env × FIS × List (String × Sg))) : Bool :=
  match r with | .ok _ => true | .error _ => false

/-- The model's own computation of the history, read off by `hist_ok` and the examples below. One kernel evaluation: the
kernel shares the states of the history between the conjuncts, whereas each fact evaluated alone runs the history up to its
point again. -/
theorem computed :
    (phaseOk (analysisPhase 100 W1 {} rq) = true ∧ extLoadsB (analysisPhase 100 W1 h0.store rq) = true ∧
      valueIs (evalStep 100 W1 {} rq) "f0#0(f1#0(1),f1#0(rt(f1#0(1))))" = true) ∧
    (extLoadsB (analysisPhase 100 W1 (runHist 100 h0 [⟨W1, rq⟩]).store rqR) = true ∧
      valueIs (evalStep 100 W1 (runHist 100 h0 [⟨W1, rq⟩]).store rqR) "c0#0(f1#0(rt(f1#0(1))))" = true) ∧
    (extLoadsB (analysisPhase 100 W2 (runHist 100 h0 [⟨W1, rq⟩, ⟨W1, rqR⟩]).store rq) = true ∧
      (evalStep 100 W2 (runHist 100 h0 [⟨W1, rq⟩, ⟨W1, rqR⟩]).store rq).log = ["f0", "f1", "f1"]) ∧
    (phaseOk (analysisPhase 100 W2 (runHist 100 h0 hist).store rqR) = true ∧
      extLoadsB (analysisPhase 100 W2 (runHist 100 h0 hist).store rqR) = true ∧
      (evalStep 100 W2 (runHist 100 h0 hist).store rqR).log = ["c0"] ∧
      valueIs (evalStep 100 W2 (runHist 100 h0 hist).store rqR) "c0#0(f1#1(rt(f1#1(1))))" = true) ∧
    (evalStep 100 W2 (runHist 100 h0 (hist ++ [⟨W2, rqR⟩])).store rqR).log = [] := by
  decide +kernel

/-- every evaluation of the history is of a version of the universe, and loads only paths committed before it -/
theorem hist_ok : histOK U 100 0 h0 hist :=
  ⟨⟨ctx1, request_ok⟩, externalLoads_of_check computed.1.2.1,
    ⟨ctx1, requestR_ok⟩, externalLoads_of_check computed.2.1.1,
    ⟨ctx2, request_ok⟩, externalLoads_of_check computed.2.2.1.1, trivial⟩

/-- the analysis accepts the evaluations (the hypotheses of `history_value` are met) … -/
example : phaseOk (analysisPhase 100 W1 {} rq) = true := computed.1.1
example : phaseOk (analysisPhase 100 W2 (runHist 100 h0 hist).store rqR) = true := computed.2.2.2.1.1
example : extLoadsB (analysisPhase 100 W2 (runHist 100 h0 hist).store rqR) = true := computed.2.2.2.1.2.1

/-- … the first evaluation computes everything; the reader sees the value kept at `/q` … -/
example : valueIs (evalStep 100 W1 {} rq) "f0#0(f1#0(1),f1#0(rt(f1#0(1))))" = true := computed.1.2.2
example : valueIs (evalStep 100 W1 (runHist 100 h0 [⟨W1, rq⟩]).store rqR) "c0#0(f1#0(rt(f1#0(1))))" = true := computed.2.1.2
/-- … the evaluation of the edited version re-runs the edited function (both kept calls of it) … -/
example : (evalStep 100 W2 (runHist 100 h0 [⟨W1, rq⟩, ⟨W1, rqR⟩]).store rq).log = ["f0", "f1", "f1"] := computed.2.2.1.2
/-- … and the reader, whose code did not change, is re-run because `/q` serves another result: it returns the new value,
not the stored one -/
example : (evalStep 100 W2 (runHist 100 h0 hist).store rqR).log = ["c0"] := computed.2.2.2.1.2.2.1
example : valueIs (evalStep 100 W2 (runHist 100 h0 hist).store rqR) "c0#0(f1#1(rt(f1#1(1))))" = true := computed.2.2.2.1.2.2.2
/-- evaluated once more, the reader is served from the store -/
example : (evalStep 100 W2 (runHist 100 h0 (hist ++ [⟨W2, rqR⟩])).store rqR).log = [] := computed.2.2.2.2

/-- `history_value` instantiated: whatever the analysis computed, the value of the reader after the history is the plain
one, from the values plain execution has kept -/
example (fn : Fn) (env : Env) (fis : FIS) (paths : List (String × Sg))
    (ha : analysisPhase 100 W2 (runHist 100 h0 hist).store rqR = .ok (fn, env, fis, paths))
    (hext : ∀ p ∈ fis.allLoads, External paths p) :
    (evalStep 100 W2 (runHist 100 h0 hist).store rqR).value =
      ((plainFn W2 W2.fuel { kept := (runHist 100 h0 hist).kept } fn env).1).map some :=
  history_value U 100 0 false hist hist_ok W2 rqR ctx2 requestR_ok ha hext (by decide)

end Dds.Example
