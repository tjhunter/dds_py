import DdsProofs.AnalyseInv
/-!
`evalStep` is rejected by the analysis, or stops before the eval stage, or runs its root and finishes. The root is a
kept call like any other when it is kept (`keepExec`); a root that is not kept is served all the same if its signature
has a blob (`rootRun`). Finishing (`finish`) commits the paths when the root returned and the stage is on. The theorems
about one evaluation use these equations and never unfold `evalStep`. A history (`runHistory`, `runHist`) is one evaluation
after another, each against the store the last one left.
-/
namespace Dds
open List

/-- the root of an accepted evaluation under the eval stage -/
def rootRun (W : World) (S : PStore) (paths : List (String × Sg)) (fis : FIS) (fn : Fn) (env : Env) : XRes :=
  match fis.storePath with
  | some p => keepExec paths (runFn W paths W.fuel) { store := S } p fn env
  | none => match sgGet S.blobs fis.retSig with
    | some v => (.ok v, { store := S })
    | none => runFn W paths W.fuel { store := S } fn env

/-- the outcome of an evaluation whose root has run -/
def finish (rq : Request) (paths : List (String × Sg)) : XRes → Outcome
  | (.error e, st) => { value := .error e, log := st.log, requested := paths, store := st.store }
  | (.ok v, st) =>
    { value := .ok (some v), log := st.log, requested := paths
      store := if Stage.pathCommit ∈ rq.stages then st.store.sync paths else st.store }

section
variable {W : World} {S : PStore} {paths : List (String × Sg)} {fis : FIS} {fn : Fn} {env : Env}

theorem rootRun_kept {p : String} (hp : fis.storePath = some p) :
    rootRun W S paths fis fn env = keepExec paths (runFn W paths W.fuel) { store := S } p fn env := by
  rw [rootRun, hp]

theorem rootRun_unkept (hp : fis.storePath = none) :
    rootRun W S paths fis fn env = match sgGet S.blobs fis.retSig with
      | some v => (.ok v, { store := S })
      | none => runFn W paths W.fuel { store := S } fn env := by
  rw [rootRun, hp]

theorem rootRun_frame {α : Type} (φ : PStore → α) (hφ : ∀ S k v, φ (S.storeBlob k v) = φ S) :
    φ (rootRun W S paths fis fn env).2.store = φ S := by
  unfold rootRun
  split
  · exact keepExec_frame φ hφ (runFn_frame φ hφ W paths W.fuel) paths _ _ _ _
  · split
    · rfl
    · exact runFn_frame φ hφ W paths W.fuel _ _ _

end

section
variable {m : Nat} {W : World} {S : PStore} {rq : Request}

theorem evalStep_rejected {e : DdsErr} (h : analysisPhase m W S rq = .error e) :
    evalStep m W S rq = { value := .error (.dds e), log := [], requested := [], store := S } := by
  simp only [evalStep, h]

variable {fn : Fn} {env : Env} {fis : FIS} {paths : List (String × Sg)}
  (ha : analysisPhase m W S rq = .ok (fn, env, fis, paths))
include ha

theorem evalStep_restricted (hs : Stage.eval ∉ rq.stages) :
    evalStep m W S rq = { value := .ok none, log := [], requested := paths, store := S } := by
  simp only [evalStep, ha, hs, not_false_eq_true, if_true]

theorem pathMap_root {p : String} (hp : fis.storePath = some p) : aget paths p = some fis.retSig := by
  obtain ⟨_, _, _, _, P⟩ := analysisPhase_inv ha
  exact ((pathsOK_iff _ _).mp P.pathsOK).1 p hp

theorem rootRun_hit {v : RVal} (hb : sgGet S.blobs fis.retSig = some v) :
    rootRun W S paths fis fn env = (.ok v, { store := S }) := by
  cases hp : fis.storePath with
  | none => rw [rootRun_unkept hp, hb]
  | some p => rw [rootRun_kept hp, keepExec_hit (pathMap_root ha hp) hb]

theorem rootRun_miss (hb : sgGet S.blobs fis.retSig = none) :
    rootRun W S paths fis fn env = andThen (runFn W paths W.fuel { store := S } fn env) fun v st =>
      (.ok v, match fis.storePath with
        | some _ => { st with store := st.store.storeBlob fis.retSig v }
        | none => st) := by
  cases hp : fis.storePath with
  | none =>
    rw [rootRun_unkept hp, hb]
    generalize runFn W paths W.fuel { store := S } fn env = r
    obtain ⟨_ | _, _⟩ := r <;> rfl
  | some p => rw [rootRun_kept hp, keepExec_miss (pathMap_root ha hp) hb]

theorem evalStep_ran (hs : Stage.eval ∈ rq.stages) : evalStep m W S rq = finish rq paths (rootRun W S paths fis fn env) := by
  simp only [evalStep, ha, hs, not_true_eq_false, if_false]
  cases hb : sgGet S.blobs fis.retSig with
  | some v => rw [rootRun_hit ha hb]; rfl
  | none =>
    rw [rootRun_miss ha hb]
    dsimp only
    generalize runFn W paths W.fuel { store := S } fn env = r
    obtain ⟨_ | v, st⟩ := r
    · rfl
    · cases hp : fis.storePath with
      | none => rfl
      | some p =>
        -- the model looks the path of the root up in the path map
        simp only [pathMap_root ha hp]
        rfl

end

/-! ## What finishing does -/

theorem sync_blobs (S : PStore) (ps : List (String × Sg)) : (S.sync ps).blobs = S.blobs := by
  unfold PStore.sync; split <;> rfl

theorem sync_noop (S : PStore) (ps : List (String × Sg)) : (S.sync ps).noop = S.noop := by
  unfold PStore.sync; split <;> rfl

theorem sync_paths (S : PStore) (ps : List (String × Sg)) :
    (S.sync ps).paths = if S.noop then S.paths else ps.foldl (fun acc pk => aset acc pk.1 pk.2) S.paths := by
  unfold PStore.sync; split <;> rfl

/-- the `completed` of `histStep` -/
def completed (o : Outcome) (rq : Request) : Bool :=
  match o.value with
  | .ok (some _) => rq.stages.contains Stage.pathCommit
  | _ => false

theorem completed_iff {o : Outcome} {rq : Request} :
    completed o rq = true ↔ (∃ v, o.value = .ok (some v)) ∧ Stage.pathCommit ∈ rq.stages := by
  unfold completed
  split
  · rename_i v hv; rw [contains_iff_mem]; exact ⟨fun h => ⟨⟨v, hv⟩, h⟩, And.right⟩
  · rename_i h; exact ⟨nofun, fun ⟨⟨v, hv⟩, _⟩ => absurd hv (h v)⟩

section
variable (rq : Request) (paths : List (String × Sg)) (r : XRes)

theorem finish_value : (finish rq paths r).value = r.1.map some := by
  obtain ⟨_ | _, _⟩ := r <;> rfl

theorem finish_store :
    (finish rq paths r).store = if completed (finish rq paths r) rq then r.2.store.sync paths else r.2.store := by
  obtain ⟨_ | _, _⟩ := r
  · rfl
  · simp only [finish, completed, contains_iff_mem]

/-- finishing touches the store through `sync` only -/
theorem finish_frame {α : Type} (φ : PStore → α) (hφ : ∀ S ps, φ (S.sync ps) = φ S) :
    φ (finish rq paths r).store = φ r.2.store := by
  rw [finish_store]
  split
  · exact hφ _ _
  · rfl

theorem finish_blobs : (finish rq paths r).store.blobs = r.2.store.blobs :=
  finish_frame rq paths r PStore.blobs sync_blobs

end

theorem rootRun_ok {m : Nat} {W : World} {S : PStore} {rq : Request} {fn : Fn} {env : Env} {fis : FIS}
    {paths : List (String × Sg)} (ha : analysisPhase m W S rq = .ok (fn, env, fis, paths)) (hs : Stage.eval ∈ rq.stages)
    {v : RVal} (hv : (evalStep m W S rq).value = .ok (some v)) : (rootRun W S paths fis fn env).1 = .ok v := by
  rw [evalStep_ran ha hs, finish_value] at hv
  cases h : (rootRun W S paths fis fn env).1 with
  | ok w => rw [h] at hv; cases hv; rfl
  | error e => rw [h] at hv; cases hv

/-! ## The store after an evaluation -/

theorem evalStep_noop (m : Nat) (W : World) (S : PStore) (rq : Request) : (evalStep m W S rq).store.noop = S.noop := by
  cases ha : analysisPhase m W S rq with
  | error e => rw [evalStep_rejected ha]
  | ok res =>
    by_cases hs : Stage.eval ∈ rq.stages
    · rw [evalStep_ran ha hs, finish_frame rq _ _ PStore.noop sync_noop]
      exact rootRun_frame PStore.noop storeBlob_noop
    · rw [evalStep_restricted ha hs]

theorem evalStep_paths {m : Nat} {W : World} {S : PStore} {rq : Request} {fn : Fn} {env : Env} {fis : FIS}
    {paths : List (String × Sg)} (ha : analysisPhase m W S rq = .ok (fn, env, fis, paths)) :
    (evalStep m W S rq).store.paths = if completed (evalStep m W S rq) rq then (S.sync paths).paths else S.paths := by
  by_cases hs : Stage.eval ∈ rq.stages
  · rw [evalStep_ran ha hs, finish_store]
    have h1 : (rootRun W S paths fis fn env).2.store.paths = S.paths := rootRun_frame PStore.paths storeBlob_paths'
    split
    · rw [sync_paths, sync_paths, h1, rootRun_frame PStore.noop storeBlob_noop]
    · exact h1
  · rw [evalStep_restricted ha hs]; rfl

/-! ## Histories -/

/-- a step of a history: a version of the code and a request evaluated against the store left by the steps before -/
structure HStep where
  world : World
  rq : Request

/-- the store after a history (any sequence of versions of the code, requests, stage lists) -/
def runHistory (m : Nat) : PStore → List HStep → PStore
  | S, [] => S
  | S, s :: ss => runHistory m (evalStep m s.world S s.rq).store ss

/-- the store and the values kept by plain execution after a history -/
def runHist (m : Nat) : HState → List HStep → HState
  | h, [] => h
  | h, s :: ss => runHist m (histStep m h s.world s.rq) ss

theorem runHist_store (m : Nat) : ∀ (hist : List HStep) (h : HState), (runHist m h hist).store = runHistory m h.store hist := by
  intro hist
  induction hist with
  | nil => exact fun _ => rfl
  | cons s ss ih => exact fun h => ih _

end Dds
