import DdsModel.Paths
/-!
The overlap check of C11: `ntl` recurses on the groups of paths under each first segment, and being a strict prefix
passes between a group and the list (`strictPrefix_tailsOf`); `mem_ntl` is the induction on the depth that says, for
any prefix, which paths are reported. The spellings of a path are compared on `List Char` (`segsC`), where `splitChars`
and `joinC` live.
-/
namespace Dds
open List

theorem mem_insertStr {a s : String} {l : List String} : a ∈ insertStr s l ↔ a = s ∨ a ∈ l := by
  induction l with
  | nil => exact mem_cons
  | cons t ts ih =>
    unfold insertStr
    split
    · next h => rw [h, mem_cons, or_self_left]
    · split
      · exact mem_cons
      · rw [mem_cons, ih, mem_cons, or_left_comm]

theorem mem_sortDedup {a : String} {l : List String} : a ∈ sortDedup l ↔ a ∈ l := by
  induction l with
  | nil => exact Iff.rfl
  | cons s ss ih => rw [sortDedup, mem_insertStr, ih, mem_cons]

theorem mem_tailsOf {k : String} {r : Segs} {ps : List Segs} : r ∈ tailsOf k ps ↔ (k :: r) ∈ ps := by
  induction ps with
  | nil => exact iff_of_false not_mem_nil not_mem_nil
  | cons p ps ih =>
    cases p with
    | nil => rw [tailsOf, ih, mem_cons, or_iff_right (cons_ne_nil k r)]
    | cons s t =>
      unfold tailsOf
      split
      · next h => rw [mem_cons, ih, mem_cons, h, cons_inj_right]
      · next h => rw [ih, mem_cons, cons.injEq, or_iff_right fun e => h e.1.symm]

theorem mem_headsOf {k : String} {ps : List Segs} : k ∈ headsOf ps ↔ ∃ r, (k :: r) ∈ ps := by
  rw [headsOf, mem_filterMap]
  constructor
  · rintro ⟨_ | ⟨s, r⟩, hp, ⟨⟩⟩
    exact ⟨r, hp⟩
  · rintro ⟨r, hr⟩
    exact ⟨k :: r, hr, rfl⟩

theorem flatMapL_eq {α β} (f : α → List β) (l : List α) : flatMapL f l = l.flatMap f := by
  induction l with
  | nil => rfl
  | cons a as ih => rw [flatMapL, flatMap_cons, ih]

theorem tailsOf_filter (k : String) (ps : List Segs) : tailsOf k (ps.filter fun p => !p.isEmpty) = tailsOf k ps := by
  induction ps with
  | nil => rfl
  | cons p ps ih =>
    cases p with
    | nil => exact ih
    | cons s r => show tailsOf k ((s :: r) :: ps.filter _) = _; simp only [tailsOf, ih]

theorem headsOf_filter (ps : List Segs) : headsOf (ps.filter fun p => !p.isEmpty) = headsOf ps := by
  induction ps with
  | nil => rfl
  | cons p ps ih =>
    cases p with
    | nil => exact ih
    | cons s _ => exact congrArg (s :: ·) ih

def Overlap (ps : List Segs) : Prop := ∃ p ∈ ps, ∃ q ∈ ps, p <+: q ∧ p ≠ q

theorem strictPrefix_tailsOf {k : String} {r : Segs} {ps : List Segs} :
    (r ∈ tailsOf k ps ∧ ∃ q ∈ tailsOf k ps, r <+: q ∧ r ≠ q) ↔
      (k :: r) ∈ ps ∧ ∃ q ∈ ps, k :: r <+: q ∧ k :: r ≠ q := by
  refine and_congr mem_tailsOf ⟨?_, ?_⟩
  · rintro ⟨q, hq, hpre, hne⟩
    exact ⟨k :: q, mem_tailsOf.mp hq, cons_prefix_cons.mpr ⟨rfl, hpre⟩, fun e => hne (cons.inj e).2⟩
  · rintro ⟨_ | ⟨k', q⟩, hq, hpre, hne⟩
    · cases prefix_nil.mp hpre
    · obtain ⟨rfl, hpq⟩ := cons_prefix_cons.mp hpre
      exact ⟨q, mem_tailsOf.mpr hq, hpq, fun e => hne (congrArg (k :: ·) e)⟩

theorem overlap_iff (ps : List Segs) :
    Overlap ps ↔ ([] ∈ ps ∧ ∃ q ∈ ps, q ≠ []) ∨ ∃ k, Overlap (tailsOf k ps) := by
  constructor
  · rintro ⟨_ | ⟨k, r⟩, hp, q, hq, hpre, hne⟩
    · exact .inl ⟨hp, q, hq, Ne.symm hne⟩
    · exact .inr ⟨k, r, strictPrefix_tailsOf.mpr ⟨hp, q, hq, hpre, hne⟩⟩
  · rintro (⟨h0, q, hq, hqne⟩ | ⟨k, r, hr⟩)
    · exact ⟨[], h0, q, hq, nil_prefix, Ne.symm hqne⟩
    · exact ⟨k :: r, strictPrefix_tailsOf.mp hr⟩

/-- the counting test of the code: `len(paths) > len(non_empty_paths) > 0` -/
theorem root_beside_iff (ps : List Segs) :
    ps.length > (ps.filter fun p => !p.isEmpty).length ∧ (ps.filter fun p => !p.isEmpty).length > 0 ↔
      [] ∈ ps ∧ ∃ q ∈ ps, q ≠ [] := by
  have e : ∀ x : Segs, (!x.isEmpty) = true ↔ x ≠ [] := fun x => by cases x <;> simp
  rw [gt_iff_lt, length_filter_lt_length_iff_exists, gt_iff_lt, length_filter_pos_iff]
  simp only [e, Decidable.not_not, exists_eq_right]

theorem mem_ntl_succ {fuel : Nat} {ps : List Segs} {pre : Option Segs} {x : Segs} :
    x ∈ ntl (fuel + 1) ps pre ↔ (pre = some x ∧ [] ∈ ps ∧ ∃ q ∈ ps, q ≠ []) ∨
      ∃ k ∈ headsOf ps, x ∈ ntl fuel (tailsOf k ps) (some (pre.getD [] ++ [k])) := by
  simp only [ntl, flatMapL_eq, headsOf_filter, tailsOf_filter, mem_append, mem_flatMap, mem_sortDedup]
  refine or_congr ?_ Iff.rfl
  cases pre with
  | none => exact iff_of_false not_mem_nil fun h => nomatch h.1
  | some p => rw [mem_ite_nil_right, root_beside_iff, mem_singleton, Option.some.injEq, and_comm, eq_comm]

/-- `pre = none → r ≠ []`: at the top there is no prefix to report -/
theorem mem_ntl {fuel : Nat} {ps : List Segs} {pre : Option Segs} (h : ∀ p ∈ ps, p.length < fuel) {x : Segs} :
    x ∈ ntl fuel ps pre ↔
      ∃ r, x = pre.getD [] ++ r ∧ (pre = none → r ≠ []) ∧ r ∈ ps ∧ ∃ q ∈ ps, r <+: q ∧ r ≠ q := by
  induction fuel generalizing ps pre with
  | zero =>
    refine iff_of_false not_mem_nil ?_
    rintro ⟨r, _, _, hr, _⟩
    exact Nat.not_lt_zero _ (h r hr)
  | succ fuel ih =>
    have ih (k : String) := @ih (tailsOf k ps) (some (pre.getD [] ++ [k])) fun r hr =>
      Nat.lt_of_succ_lt_succ (h _ (mem_tailsOf.mp hr))
    rw [mem_ntl_succ]
    constructor
    · rintro (⟨rfl, h0, q, hq, hne⟩ | ⟨k, _, hk⟩)
      · exact ⟨[], (append_nil x).symm, nofun, h0, q, hq, nil_prefix, Ne.symm hne⟩
      · obtain ⟨r, hx, _, hr⟩ := (ih k).mp hk
        exact ⟨k :: r, hx.trans (append_assoc _ [k] r), fun _ => cons_ne_nil k r, strictPrefix_tailsOf.mp hr⟩
    · rintro ⟨_ | ⟨k, r⟩, hx, hpre, hr⟩
      · cases pre with
        | none => exact absurd rfl (hpre rfl)
        | some p =>
          exact .inl ⟨congrArg some ((append_nil p).symm.trans hx.symm), hr.1,
            hr.2.imp fun q hq => ⟨hq.1, Ne.symm hq.2.2⟩⟩
      · exact .inr ⟨k, mem_headsOf.mpr ⟨r, hr.1⟩,
          (ih k).mpr ⟨r, hx.trans (append_assoc _ [k] r).symm, nofun, strictPrefix_tailsOf.mpr hr⟩⟩

theorem mem_le_maxLen {p : Segs} {ps : List Segs} (h : p ∈ ps) : p.length ≤ maxLen ps := by
  induction ps with
  | nil => cases h
  | cons q qs ih =>
    exact (mem_cons.mp h).elim (fun e => e ▸ Nat.le_max_left _ _) fun h => Nat.le_trans (ih h) (Nat.le_max_right _ _)

theorem mem_nonTerminalLeaves {ps : List Segs} {x : Segs} :
    x ∈ nonTerminalLeaves ps ↔ x ∈ ps ∧ ∃ q ∈ ps, x ≠ [] ∧ x <+: q ∧ x ≠ q := by
  refine (mem_ntl fun _ hp => Nat.lt_succ_of_le (mem_le_maxLen hp)).trans ⟨?_, ?_⟩
  · rintro ⟨r, rfl, h0, hr, q, hq, hpq⟩
    exact ⟨hr, q, hq, h0 rfl, hpq⟩
  · rintro ⟨hx, q, hq, h0, hpq⟩
    exact ⟨x, rfl, fun _ => h0, hx, q, hq, hpq⟩

/-! ## One spelling for one path (`DDSPathUtils._normalized`) -/

theorem split_seg (sep : Char) (s rest cur : List Char) (h : sep ∉ s) :
    splitChars sep (s ++ rest) cur = splitChars sep rest (s.reverse ++ cur) := by
  induction s generalizing cur with
  | nil => rfl
  | cons c s ih =>
    rw [cons_append, splitChars, if_neg (fun e : c = sep => h (e ▸ mem_cons_self)), ih _ fun e => h (mem_cons_of_mem _ e),
      reverse_cons, append_assoc, singleton_append]

theorem split_sep_seg {sep : Char} {s : List Char} (h : sep ∉ s) (rest cur : List Char) :
    splitChars sep (sep :: (s ++ rest)) cur = cur.reverse :: splitChars sep rest s.reverse := by
  rw [splitChars, if_pos rfl, split_seg sep s rest [] h, append_nil]

theorem split_joinC (s : List Char) (ss : List (List Char)) (h : ∀ t ∈ s :: ss, '/' ∉ t) (cur : List Char) :
    splitChars '/' (joinC (s :: ss)) cur = cur.reverse :: s :: ss := by
  have hs := h s mem_cons_self
  induction ss generalizing s cur with
  | nil =>
    have := split_sep_seg hs [] cur
    rw [append_nil] at this
    exact this.trans (by rw [splitChars, reverse_reverse])
  | cons t ss ih =>
    show splitChars '/' ('/' :: (s ++ joinC (t :: ss))) cur = _
    rw [split_sep_seg hs, ih t (fun u hu => h u (mem_cons_of_mem _ hu)) _ (h t (mem_cons_of_mem _ mem_cons_self)), reverse_reverse]

theorem split_join (ss : List (List Char)) (h : ∀ s ∈ ss, s ≠ [] ∧ '/' ∉ s) (cur : List Char) :
    (splitChars '/' (joinC ss) cur).filter (fun s => !s.isEmpty) = (if cur.isEmpty then [] else [cur.reverse]) ++ ss := by
  have hcur (l : List (List Char)) : (cur.reverse :: l).filter (fun s => !s.isEmpty) =
      (if cur.isEmpty then [] else [cur.reverse]) ++ l.filter (fun s => !s.isEmpty) := by
    rw [filter_cons, isEmpty_reverse]; cases cur.isEmpty <;> rfl
  cases ss with
  | nil => exact hcur [[]]
  | cons s ss =>
    rw [split_joinC s ss (fun t ht => (h t ht).2), hcur, filter_eq_self.mpr fun t ht => by
      cases t with
      | nil => exact absurd rfl (h _ ht).1
      | cons _ _ => rfl]

theorem split_no_sep (sep : Char) : ∀ (cs cur : List Char), sep ∉ cur → ∀ s ∈ splitChars sep cs cur, sep ∉ s := by
  intro cs
  induction cs with
  | nil => intro cur hc s hs; rw [mem_singleton.mp hs, mem_reverse]; exact hc
  | cons c cs ih =>
    intro cur hc s hs
    unfold splitChars at hs
    split at hs
    · rcases mem_cons.mp hs with rfl | hs
      · rw [mem_reverse]; exact hc
      · exact ih [] not_mem_nil s hs
    · next h => exact ih (c :: cur) (fun e => (mem_cons.mp e).elim (fun e => h e.symm) hc) s hs

/-- `pathSegs` before the segments are made strings (`pathSegs_eq`) -/
def segsC (p : String) : List (List Char) := (splitChars '/' p.toList []).filter (fun s => !s.isEmpty)

theorem segs_normPath (p : String) : segsC (normPath p) = segsC p := by
  unfold normPath segsC
  -- by rewriting: a `show` or `exact` that leaves `(String.ofList l).toList = l` to unfolding runs into the UTF-8 encoding
  -- of `String` and times out in `whnf`
  rw [String.toList_ofList]
  refine (split_join _ (fun s hs => ?_) []).trans (nil_append _)
  obtain ⟨hs, hne⟩ := mem_filter.mp hs
  refine ⟨?_, split_no_sep '/' _ [] not_mem_nil s hs⟩
  rintro rfl
  cases hne

theorem normPath_idem (p : String) : normPath (normPath p) = normPath p :=
  congrArg (fun l => String.ofList (joinC l)) (segs_normPath p)

theorem pathSegs_eq (p : String) : pathSegs p = (segsC p).map String.ofList := by
  rw [pathSegs, segsC, filter_map]
  refine congrArg _ (filter_congr fun s _ => ?_)
  cases s <;> simp [String.ofList_eq_empty_iff]

theorem pathSegs_normPath (p : String) : pathSegs (normPath p) = pathSegs p := by
  rw [pathSegs_eq, pathSegs_eq, segs_normPath]

end Dds
