import DdsModel.StoreSpec
/-! A store is a state with a step function on `StoreOp`. It behaves like the dictionary `Dict` on the operations it
admits (`ok`) when there is a forward simulation with equal outputs (`Sim`), which `Sim.run` carries to operation
sequences. -/
namespace Dds
open List

variable {σ : Type} (R : σ → Dict → Prop) (ok : StoreOp → Prop) (istep : σ → StoreOp → σ × Out)

def Sim : Prop :=
  ∀ s d op, ok op → R s d → R (istep s op).1 (d.step op).1 ∧ (istep s op).2 = (d.step op).2

variable {R ok istep}

theorem Sim.run (hsim : Sim R ok istep) (ops : List StoreOp) (s : σ) (d : Dict) (hok : ∀ op ∈ ops, ok op) (h : R s d) :
    (runOps istep s ops).2 = (runOps Dict.step d ops).2 ∧ R (runOps istep s ops).1 (runOps Dict.step d ops).1 := by
  induction ops generalizing s d with
  | nil => exact ⟨rfl, h⟩
  | cons op ops ih =>
    obtain ⟨hi, ho⟩ := hsim s d op (hok op mem_cons_self) h
    obtain ⟨r1, r2⟩ := ih _ _ (fun o ho' => hok o (mem_cons_of_mem _ ho')) hi
    simp only [runOps]
    exact ⟨by rw [ho, r1], r2⟩

theorem Sim.refl : Sim (fun s d => s = d) (fun _ => True) Dict.step :=
  fun _ _ _ _ h => h ▸ ⟨rfl, rfl⟩

end Dds
