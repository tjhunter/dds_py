import DdsProofs.Tree
import DdsProofs.Assoc
import DdsProofs.Hash
import DdsModel.Introspect
/-!
The path map of an evaluation (`all_store_paths`) is `odSet` folded over the kept calls of the tree (`FIS.keptSigs`,
`allStorePaths_eq`). A fold that succeeds maps a path to a signature exactly when the accumulator did or a call is kept
at the path under the signature, and adds no path twice (`odSetAll_spec`). `pathsOK`, `Covered` and `keptPaths` each say
something of every member of `keptSigs`, so what the proofs need of the path map is read off these.
-/
namespace Dds
open List

/-! ## The kept calls of a tree -/

mutual
/-- the kept calls of a tree, path and signature, the node before its children, each as often as it occurs: the list `res`
of `all_store_paths`, but for the repetitions inside one child, which the recursive call has merged (or refused) already -/
def FIS.keptSigs : FIS → List (String × Sg)
  | .mk _ s p subs _ => (match p with | some q => [(q, s)] | none => []) ++ FIS.keptSigsL subs
def FIS.keptSigsL : List FIS → List (String × Sg)
  | [] => []
  | f :: fs => FIS.keptSigs f ++ FIS.keptSigsL fs
end

theorem keptSigsL_eq (fs : List FIS) : FIS.keptSigsL fs = fs.flatMap FIS.keptSigs := flatL_eq rfl (fun _ _ => rfl) fs

theorem forall_keptSigsL {Q : String × Sg → Prop} {fs : List FIS} :
    (∀ ps ∈ FIS.keptSigsL fs, Q ps) ↔ ∀ f ∈ fs, ∀ ps ∈ f.keptSigs, Q ps := by
  rw [keptSigsL_eq]
  exact forall_mem_flatMap

theorem forall_keptSigs {Q : String × Sg → Prop} (f : FIS) :
    (∀ ps ∈ f.keptSigs, Q ps) ↔
      (∀ q, f.storePath = some q → Q (q, f.retSig)) ∧ ∀ g ∈ f.subs, ∀ ps ∈ g.keptSigs, Q ps := by
  obtain ⟨n, s, p, subs, l⟩ := f
  cases p with
  | none => rw [FIS.keptSigs, nil_append, forall_keptSigsL]; exact ⟨fun h => ⟨nofun, h⟩, And.right⟩
  | some q =>
    rw [FIS.keptSigs, singleton_append, forall_mem_cons, forall_keptSigsL]
    exact and_congr ⟨fun h _ e => Option.some.inj e ▸ h, fun h => h q rfl⟩ Iff.rfl

theorem pathsOK_iff_keptSigs {paths : List (String × Sg)} :
    ∀ f : FIS, FIS.pathsOK paths f ↔ ∀ ps ∈ f.keptSigs, aget paths ps.1 = some ps.2 :=
  FIS.induction fun n s p subs l ih => by
    rw [pathsOK_iff, pathsOKL_iff, forall_keptSigs]
    exact and_congr Iff.rfl (forall₂_congr ih)

theorem covered_iff_keptSigs {bl : List (Sg × RVal)} :
    ∀ f : FIS, Covered bl f ↔ ∀ ps ∈ f.keptSigs, (sgGet bl ps.2).isSome = true :=
  FIS.induction fun n s p subs l ih => by
    rw [covered_iff, coveredL_iff, forall_keptSigs]
    refine and_congr ⟨fun h q e => h (e ▸ nofun), fun h hp => ?_⟩ (forall₂_congr ih)
    obtain ⟨q, e⟩ := Option.ne_none_iff_exists'.mp hp
    exact h q e

theorem keptSigs_keptPaths : ∀ f : FIS, ∀ ps ∈ f.keptSigs, ps.1 ∈ f.keptPaths :=
  FIS.induction fun _ _ _ _ _ ih => (forall_keptSigs _).mpr
    ⟨fun q e => (keptPaths_iff _ q).mpr (.inl e),
      fun g hg ps hps => (keptPaths_iff _ _).mpr (.inr (keptPathsL_mem hg (ih g hg ps hps)))⟩

/-! ## The fold -/

theorem allStorePathsL_eq_of {fs : List FIS}
    (h : ∀ f ∈ fs, ∀ acc, allStorePaths acc f = f.keptSigs.foldlM (fun a ps => odSet a ps.1 ps.2) acc) :
    ∀ acc, allStorePathsL acc fs = (FIS.keptSigsL fs).foldlM (fun a ps => odSet a ps.1 ps.2) acc := by
  induction fs with
  | nil => exact fun _ => rfl
  | cons f fs ih =>
    intro acc
    rw [allStorePathsL, FIS.keptSigsL, foldlM_append, ← h f mem_cons_self acc]
    cases allStorePaths acc f with
    | error e => rfl
    | ok a => exact ih (fun g hg => h g (mem_cons_of_mem _ hg)) a

theorem allStorePaths_eq : ∀ (f : FIS) (acc : List (String × Sg)),
    allStorePaths acc f = f.keptSigs.foldlM (fun a ps => odSet a ps.1 ps.2) acc :=
  FIS.induction fun _ s p subs _ ih acc => by
    cases p with
    | none => rw [allStorePaths, FIS.keptSigs, nil_append]; exact allStorePathsL_eq_of ih acc
    | some q =>
      rw [allStorePaths, FIS.keptSigs, singleton_append, foldlM_cons]
      cases odSet acc q s with
      | error e => rfl
      | ok a => exact allStorePathsL_eq_of ih a

theorem allStorePathsL_eq (fs : List FIS) (acc : List (String × Sg)) :
    allStorePathsL acc fs = (FIS.keptSigsL fs).foldlM (fun a ps => odSet a ps.1 ps.2) acc :=
  allStorePathsL_eq_of (fun f _ => allStorePaths_eq f) acc

theorem odSet_spec {acc acc' : List (String × Sg)} {q : String} {s : Sg} (h : odSet acc q s = .ok acc') :
    (∀ p k, aget acc' p = some k ↔ aget acc p = some k ∨ (p, k) = (q, s)) ∧
    ((acc.map Prod.fst).Nodup → (acc'.map Prod.fst).Nodup) := by
  unfold odSet at h
  cases hg : aget acc q with
  | some v =>
    simp only [hg] at h
    split at h
    · rename_i hv
      cases h
      exact ⟨fun p k => ⟨.inl, fun h => h.elim id fun e => by cases e; exact hv ▸ hg⟩, id⟩
    · cases h
  | none =>
    simp only [hg] at h
    cases h
    refine ⟨aget_snoc hg s, fun hnd => ?_⟩
    rw [map_append, nodup_append]
    refine ⟨hnd, by simp, fun a ha b hb e => ?_⟩
    obtain ⟨pk, hm, rfl⟩ := mem_map.mp ha
    exact not_mem_of_aget_none hg pk hm (e.trans (mem_singleton.mp hb))

theorem odSetAll_spec : ∀ (l : List (String × Sg)) {acc paths : List (String × Sg)},
    l.foldlM (fun a ps => odSet a ps.1 ps.2) acc = .ok paths →
    (∀ p k, aget paths p = some k ↔ aget acc p = some k ∨ (p, k) ∈ l) ∧
    ((acc.map Prod.fst).Nodup → (paths.map Prod.fst).Nodup) := by
  intro l
  induction l with
  | nil => intro acc paths h; cases h; exact ⟨fun p k => by simp, id⟩
  | cons ps l ih =>
    intro acc paths h
    rw [foldlM_cons] at h
    obtain ⟨acc', h1, h2⟩ := bind_ok h
    obtain ⟨a1, a2⟩ := odSet_spec h1
    obtain ⟨b1, b2⟩ := ih h2
    exact ⟨fun p k => by rw [b1, a1, mem_cons, or_assoc], fun hnd => b2 (a2 hnd)⟩

theorem allStorePaths_spec {f : FIS} {acc paths : List (String × Sg)} (h : allStorePaths acc f = .ok paths) :
    (∀ p k, aget paths p = some k ↔ aget acc p = some k ∨ (p, k) ∈ f.keptSigs) ∧
    ((acc.map Prod.fst).Nodup → (paths.map Prod.fst).Nodup) :=
  odSetAll_spec _ (allStorePaths_eq f acc ▸ h)

theorem allStorePathsL_spec {fs : List FIS} {acc paths : List (String × Sg)} (h : allStorePathsL acc fs = .ok paths) :
    (∀ p k, aget paths p = some k ↔ aget acc p = some k ∨ (p, k) ∈ FIS.keptSigsL fs) ∧
    ((acc.map Prod.fst).Nodup → (paths.map Prod.fst).Nodup) :=
  odSetAll_spec _ (allStorePathsL_eq fs acc ▸ h)

/-! ## The path map of an evaluation starts from nothing -/

theorem pathMap_iff {f : FIS} {paths : List (String × Sg)} (h : allStorePaths [] f = .ok paths) (p : String) (k : Sg) :
    aget paths p = some k ↔ (p, k) ∈ f.keptSigs :=
  ((allStorePaths_spec h).1 p k).trans (or_iff_right nofun)

theorem pathMap_nodup {f : FIS} {paths : List (String × Sg)} (h : allStorePaths [] f = .ok paths) :
    (paths.map Prod.fst).Nodup :=
  (allStorePaths_spec h).2 nodup_nil

/-! ## In terms of `pathsOK`, `Covered`, `keptPaths` -/

theorem allStorePaths_ok : ∀ (f : FIS) (acc paths : List (String × Sg)), allStorePaths acc f = .ok paths →
    (∀ k v, aget acc k = some v → aget paths k = some v) ∧
    (∀ final, (∀ k v, aget paths k = some v → aget final k = some v) → FIS.pathsOK final f) :=
  fun f _ _ h => have s := (allStorePaths_spec h).1
    ⟨fun k v hk => (s k v).mpr (.inl hk),
      fun _ hf => (pathsOK_iff_keptSigs f).mpr fun _ hps => hf _ _ ((s _ _).mpr (.inr hps))⟩

theorem allStorePathsL_ok : ∀ (fs : List FIS) (acc paths : List (String × Sg)), allStorePathsL acc fs = .ok paths →
    (∀ k v, aget acc k = some v → aget paths k = some v) ∧
    (∀ final, (∀ k v, aget paths k = some v → aget final k = some v) → FIS.pathsOKL final fs) :=
  fun _ _ _ h => have s := (allStorePathsL_spec h).1
    ⟨fun k v hk => (s k v).mpr (.inl hk), fun _ hf => pathsOKL_iff.mpr fun f hm =>
      (pathsOK_iff_keptSigs f).mpr fun _ hps => hf _ _ ((s _ _).mpr (.inr (forall_keptSigsL.mp (fun _ => id) f hm _ hps)))⟩

theorem allStorePathsL_cov {bl : List (Sg × RVal)} : ∀ (fs : List FIS) (acc paths : List (String × Sg)),
    allStorePathsL acc fs = .ok paths → CoveredL bl fs →
    (∀ p k, aget acc p = some k → (sgGet bl k).isSome = true) →
    ∀ p k, aget paths p = some k → (sgGet bl k).isSome = true :=
  fun _ _ _ h hc hacc p k hp => ((allStorePathsL_spec h).1 p k).mp hp |>.elim (hacc p k)
    (forall_keptSigsL.mpr (fun f hm => (covered_iff_keptSigs f).mp (coveredL_iff.mp hc f hm)) (p, k))

theorem allStorePathsL_keys : ∀ (fs : List FIS) (acc paths : List (String × Sg)), allStorePathsL acc fs = .ok paths →
    ∀ p k, aget paths p = some k → aget acc p = some k ∨ p ∈ FIS.keptPathsL fs :=
  fun _ _ _ h p k hp => ((allStorePathsL_spec h).1 p k).mp hp |>.imp_right
    (forall_keptSigsL.mpr (fun f hm ps hps => keptPathsL_mem hm (keptSigs_keptPaths f ps hps)) (p, k))

theorem allStorePathsL_nodup : ∀ (fs : List FIS) (acc paths : List (String × Sg)), allStorePathsL acc fs = .ok paths →
    (acc.map Prod.fst).Nodup → (paths.map Prod.fst).Nodup :=
  fun _ _ _ h => (allStorePathsL_spec h).2

end Dds
