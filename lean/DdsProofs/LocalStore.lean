import DdsModel.LocalStore
import DdsProofs.Assoc
import DdsProofs.StoreSim
/-! Lemmas for C08: `LocalFileStore` (request level) simulates the dictionary. -/
namespace Dds
open List

theorem decVal_encVal (v : Val) : decVal (encVal v).1 (encVal v).2 = v := by
  cases v with
  | none => rfl
  | some n => simp [encVal, decVal]

theorem lget_eq {α} (l : List (Loc × α)) (k : Loc) : lget l k = kvGet l k :=
  eq_kvGet lget (fun _ => rfl) (fun _ _ _ _ => rfl) l k

theorem lget_lset {α} (l : List (Loc × α)) (k k' : Loc) (v : α) :
    lget (lset l k v) k' = if k = k' then some v else lget l k' := by
  rw [lget_eq, lget_eq, lset, kvGet_put]

/-- the universe of DDS paths an operation sequence uses: every one has a location, and two of them
with one location are the same path -/
structure PathUniverse (P : DPath → Prop) : Prop where
  defined : ∀ p, P p → ∃ l, localLoc p = .ok l
  inj : ∀ p q l, P p → P q → localLoc p = .ok l → localLoc q = .ok l → p = q

def blobOf (s : LocalSt) (k : Key) : Option Val :=
  match aget s.blobs k, aget s.metas k with
  | some b, some r => some (decVal b r)
  | _, _ => none

def LocalRel (P : DPath → Prop) (s : LocalSt) (d : Dict) : Prop :=
  (∀ k, aget d.blobs k = blobOf s k) ∧
  (∀ k, (aget s.blobs k).isSome = (aget s.metas k).isSome) ∧
  (∀ p l, P p → localLoc p = .ok l → aget d.paths p = lget s.links l)

def opOk (P : DPath → Prop) : StoreOp → Prop
  | .sync ps => ∀ pk ∈ ps, P pk.1
  | .fetchPaths ps => ∀ p ∈ ps, P p
  | _ => True

theorem LocalSt.step_store (s : LocalSt) (k : Key) (v : Val) :
    s.step (.store k v) = ({ s with blobs := aset s.blobs k (encVal v).1, metas := aset s.metas k (encVal v).2 }, .unit) :=
  rfl

theorem LocalSt.step_fetch (s : LocalSt) (k : Key) : s.step (.fetch k) = (s, .val ((blobOf s k).getD none)) := by
  dsimp only [LocalSt.step, blobOf]
  cases aget s.blobs k <;> cases aget s.metas k <;> rfl

theorem LocalSt.step_sync (s : LocalSt) (ps : List (DPath × Key)) :
    s.step (.sync ps) = ((s.syncAll ps).1, if (s.syncAll ps).2 then .unit else .err) := by
  dsimp only [LocalSt.step]
  rcases s.syncAll ps with ⟨s', _ | _⟩ <;> rfl

theorem blobOf_store (s : LocalSt) (k k' : Key) (v : Val) :
    blobOf { s with blobs := aset s.blobs k (encVal v).1, metas := aset s.metas k (encVal v).2 } k' =
      if k = k' then some v else blobOf s k' := by
  by_cases e : k = k'
  · simp only [blobOf, aget_aset, if_pos e, decVal_encVal]
  · simp only [blobOf, aget_aset, if_neg e]

/-- the model's `has` looks at the blob only (`has_blob` in the code also asks for the metadata file): the two agree with
`blobOf` where blob and metadata come together, as they do in every state `step` reaches -/
theorem blobOf_isSome {s : LocalSt} {k : Key} (hm : (aget s.blobs k).isSome = (aget s.metas k).isSome) :
    (blobOf s k).isSome = (aget s.blobs k).isSome := by
  unfold blobOf
  cases hb : aget s.blobs k with
  | none => rfl
  | some b =>
    cases hr : aget s.metas k with
    | none => rw [hb, hr] at hm; cases hm
    | some r => rfl

/-- committing paths of the universe keeps the relation, and does not raise: the links are keyed by location, the
dictionary's paths by name, and on the universe the two are in bijection -/
theorem syncAll_sim (P : DPath → Prop) (hP : PathUniverse P) (ps : List (DPath × Key)) (s : LocalSt) (d : Dict)
    (hok : ∀ pk ∈ ps, P pk.1) (hrel : LocalRel P s d) :
    (s.syncAll ps).2 = true ∧ LocalRel P (s.syncAll ps).1 { d with paths := syncAll d.paths ps } := by
  induction ps generalizing s d with
  | nil => exact ⟨rfl, hrel⟩
  | cons pk ps ih =>
    obtain ⟨p, k⟩ := pk
    obtain ⟨hb, hm, hp⟩ := hrel
    have hPp := hok (p, k) mem_cons_self
    obtain ⟨l, hl⟩ := hP.defined p hPp
    simp only [LocalSt.syncAll, hl]
    refine ih { s with links := lset s.links l k } { d with paths := aset d.paths p k }
      (fun pk hpk => hok pk (mem_cons_of_mem _ hpk)) ⟨hb, hm, fun p' l' hp' hl' => ?_⟩
    have hpl : p = p' ↔ l = l' :=
      ⟨fun e => Except.ok.inj ((e ▸ hl).symm.trans hl'), fun e => hP.inj p p' l hPp hp' hl (e ▸ hl')⟩
    rw [aget_aset, lget_lset, hp p' l' hp' hl']
    simp only [hpl]

theorem resolveAll_sim (P : DPath → Prop) (hP : PathUniverse P) (s : LocalSt) (paths : List (DPath × Key))
    (h : ∀ p l, P p → localLoc p = .ok l → aget paths p = lget s.links l) (ps seen : List DPath) (hok : ∀ p ∈ ps, P p) :
    s.resolveAll ps seen = resolveAll paths ps seen := by
  induction ps generalizing seen with
  | nil => rfl
  | cons p ps ih =>
    obtain ⟨l, hl⟩ := hP.defined p (hok p mem_cons_self)
    simp only [LocalSt.resolveAll, resolveAll, hl, h p l (hok p mem_cons_self) hl,
      ih (p :: seen) (fun q hq => hok q (mem_cons_of_mem _ hq))]
    rfl

theorem local_sim (P : DPath → Prop) (hP : PathUniverse P) : Sim (LocalRel P) (opOk P) LocalSt.step := by
  intro s d op hop hrel
  have ⟨hb, hm, hp⟩ := hrel
  cases op with
  | store k v =>
    rw [LocalSt.step_store]
    refine ⟨⟨fun k' => ?_, fun k' => ?_, hp⟩, rfl⟩
    · exact (aget_aset ..).trans (by rw [blobOf_store, hb k'])
    · simp only [aget_aset]
      split
      · rfl
      · exact hm k'
  | has k =>
    refine ⟨hrel, congrArg Out.bool ?_⟩
    rw [hb k, blobOf_isSome (hm k)]
  | fetch k => rw [LocalSt.step_fetch, ← hb k]; exact ⟨hrel, rfl⟩
  | sync ps =>
    obtain ⟨h1, h2⟩ := syncAll_sim P hP ps s d hop hrel
    rw [LocalSt.step_sync, h1]
    exact ⟨h2, rfl⟩
  | fetchPaths ps =>
    dsimp only [LocalSt.step, Dict.step]
    rw [resolveAll_sim P hP s d.paths hp ps [] hop]
    cases resolveAll d.paths ps [] <;> exact ⟨hrel, rfl⟩

end Dds
