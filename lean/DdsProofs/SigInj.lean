import DdsProofs.SymLemmas
import DdsModel.Sig
import Std.Data.String.ToNat
/-!
# Injectivity of signature composition (`_build_return_sig`)

Equal return signatures have, category by category, the same pairs: body, arguments (or context),
loaded paths, sub-calls, external names, tracked variables. The categories are told apart by the first
characters of their keys (`body_sig`, `arg_…`, `dep_…`, `fun_dep_…`, `ext_dep_…`, `ext_variable_…`).
-/
namespace Dds
open List

/-- category of a key of `_build_return_sig`: 0 `body_sig`, 1 `arg_*` / `arg_context`, 2 `dep_*`, 3 `fun_dep_*`, 4 `ext_dep_*`,
5 `ext_variable_*`, 6 anything else -/
def keyCat (k : String) : Nat :=
  match k.toList with
  | 'b' :: _ => 0
  | 'a' :: _ => 1
  | 'd' :: _ => 2
  | 'f' :: _ => 3
  | 'e' :: _ :: _ :: _ :: 'd' :: _ => 4
  | 'e' :: _ :: _ :: _ :: 'v' :: _ => 5
  | _ => 6

/-- a key whose first characters decide its category keeps it whatever follows -/
theorem keyCat_append {pre : String} {c : Nat} (h : keyCat pre = c) (hc : c ≠ 6) (n : String) : keyCat (pre ++ n) = c := by
  subst h
  unfold keyCat at hc ⊢
  rewrite [String.toList_append]
  generalize pre.toList = l at hc ⊢
  split at hc
  case h_7 => exact absurd rfl hc
  -- in the six decided cases both sides reduce to the category
  all_goals rfl

theorem keyCat_body : keyCat "body_sig" = 0 := by decide +kernel
theorem keyCat_argctx : keyCat "arg_context" = 1 := by decide +kernel
theorem keyCat_arg (n : String) : keyCat ("arg_" ++ n) = 1 := keyCat_append (by decide +kernel) (by decide) n
theorem keyCat_dep (n : String) : keyCat ("dep_" ++ n) = 2 := keyCat_append (by decide +kernel) (by decide) n
theorem keyCat_fun (n : String) : keyCat ("fun_dep_" ++ n) = 3 := keyCat_append (by decide +kernel) (by decide) n
theorem keyCat_extdep (n : String) : keyCat ("ext_dep_" ++ n) = 4 := keyCat_append (by decide +kernel) (by decide) n
theorem keyCat_extvar (n : String) : keyCat ("ext_variable_" ++ n) = 5 := keyCat_append (by decide +kernel) (by decide) n

abbrev Pairs := List (String × Sg)

def inCat (c : Nat) (l : Pairs) : Prop := ∀ kv ∈ l, keyCat kv.1 = c

theorem inCat_map {α} {c : Nat} {f : α → String × Sg} (hf : ∀ a, keyCat (f a).1 = c) (l : List α) :
    inCat c (l.map f) := by
  intro kv h
  obtain ⟨a, _, rfl⟩ := mem_map.mp h
  exact hf a

theorem inCat.filter {c' : Nat} {l : Pairs} (h : inCat c' l) (c : Nat) :
    l.filter (fun kv => keyCat kv.1 == c) = if c' = c then l else [] := by
  split
  · next e => exact filter_eq_self.mpr fun kv hkv => beq_iff_eq.mpr ((h kv hkv).trans e)
  · next e => exact filter_eq_nil_iff.mpr fun kv hkv hb => e ((h kv hkv).symm.trans (beq_iff_eq.mp hb))

/-! ### the parts of `buildReturnSig` -/

def bodyPart (b : Option Sg) : Pairs := match b with | none => [] | some b => [("body_sig", b)]
def depPart (deps : List (String × Sg)) : Pairs := deps.map (fun (p, s) => ("dep_" ++ p, s))
def extdPart (ed : List (String × String)) : Pairs := ed.map (fun (l, cp) => ("ext_dep_" ++ l, hStr ("<" ++ cp ++ ">")))
def extvPart (ev : List (String × Sg)) : Pairs := ev.map (fun (l, s) => ("ext_variable_" ++ l, s))

theorem buildReturnSig_eq (b : Option Sg) (a : ArgCtx) (deps : List (String × Sg)) (subs : List Sg)
    (ed : List (String × String)) (ev : List (String × Sg)) (pa : Pairs) (ha : argPairs a = .ok pa) :
    buildReturnSig b a deps subs ed ev =
      .ok (hashCommut (bodyPart b ++ pa ++ depPart deps ++ fisSigList subs ++ extdPart ed ++ extvPart ev)) := by
  unfold buildReturnSig
  rw [ha]
  cases b <;> rfl

theorem argPairs_cat (a : ArgCtx) (pa : Pairs) (h : argPairs a = .ok pa) : inCat 1 pa := by
  unfold argPairs at h
  split at h
  · cases h
    exact inCat_map (fun ⟨n, _⟩ => keyCat_arg n) _
  · split at h
    · cases h
      exact fun kv hkv => mem_singleton.mp hkv ▸ keyCat_argctx
    · cases h

theorem bodyPart_cat : ∀ b, inCat 0 (bodyPart b)
  | none => fun _ h => nomatch h
  | some _ => fun _ hkv => mem_singleton.mp hkv ▸ keyCat_body
theorem depPart_cat (deps : List (String × Sg)) : inCat 2 (depPart deps) := inCat_map (fun ⟨p, _⟩ => keyCat_dep p) _
theorem extdPart_cat (ed : List (String × String)) : inCat 4 (extdPart ed) := inCat_map (fun ⟨l, _⟩ => keyCat_extdep l) _
theorem extvPart_cat (ev : List (String × Sg)) : inCat 5 (extvPart ev) := inCat_map (fun ⟨l, _⟩ => keyCat_extvar l) _

theorem fisSigListFrom_keys (subs : List Sg) (i : Nat) :
    (fisSigListFrom i subs).map Prod.fst = (List.range' i subs.length).map (fun j => "fun_dep_" ++ toString j) := by
  induction subs generalizing i with
  | nil => rfl
  | cons s ss ih => rw [fisSigListFrom, map_cons, length_cons, range'_succ, map_cons, ih]

theorem fisSigListFrom_snd (subs : List Sg) (i : Nat) : (fisSigListFrom i subs).map Prod.snd = subs := by
  induction subs generalizing i with
  | nil => rfl
  | cons s ss ih => rw [fisSigListFrom, map_cons, ih]

theorem fisSigList_cat (subs : List Sg) : inCat 3 (fisSigList subs) := fun kv hkv => by
  obtain ⟨j, _, e⟩ := mem_map.mp (fisSigListFrom_keys subs 0 ▸ mem_map_of_mem (f := Prod.fst) hkv)
  exact e ▸ keyCat_fun _

theorem fisSigList_perm_eq (s s' : List Sg) (h : fisSigList s ~ fisSigList s') : s = s' := by
  unfold fisSigList at h
  have hlen : s.length = s'.length := by
    rw [← fisSigListFrom_snd s 0, ← fisSigListFrom_snd s' 0, length_map, length_map]
    exact h.length_eq
  have hkeys : (fisSigListFrom 0 s).map Prod.fst = (fisSigListFrom 0 s').map Prod.fst := by
    rw [fisSigListFrom_keys, fisSigListFrom_keys, hlen]
  have hnd : KeysNodup (fisSigListFrom 0 s) := by
    unfold KeysNodup
    rw [fisSigListFrom_keys]
    exact Pairwise.map _ (fun a b hab e => hab (Nat.repr_inj.mp ((String.append_right_inj _).mp e)))
      (nodup_range' (step := 1) (by decide))
  have := eq_of_subset_of_keys_eq h.subset hkeys hnd
  rw [← fisSigListFrom_snd s 0, ← fisSigListFrom_snd s' 0, this]

theorem bodyPart_perm_eq (b b' : Option Sg) (h : bodyPart b ~ bodyPart b') : b = b' := by
  cases b <;> cases b' <;> simp only [bodyPart] at h
  · rfl
  · exact absurd h.length_eq (by simp)
  · exact absurd h.length_eq (by simp)
  · have := perm_singleton.mp h
    simp only [cons.injEq, Prod.mk.injEq, true_and, and_true] at this
    rw [this]

/-- **Injectivity of signature composition.** Two calls of `_build_return_sig` with the same result have the
same body signature, the same argument pairs (up to order), the same loaded-path signatures, the same
sub-call signatures in the same order, the same external names and the same tracked-variable hashes. -/
theorem buildReturnSig_inj (b b' : Option Sg) (a a' : ArgCtx) (deps deps' : List (String × Sg)) (subs subs' : List Sg)
    (ed ed' : List (String × String)) (ev ev' : List (String × Sg)) (pa pa' : Pairs)
    (ha : argPairs a = .ok pa) (ha' : argPairs a' = .ok pa')
    (h : buildReturnSig b a deps subs ed ev = buildReturnSig b' a' deps' subs' ed' ev') :
    b = b' ∧ pa ~ pa' ∧ (∀ p s, (p, s) ∈ deps ↔ (p, s) ∈ deps') ∧ subs = subs' ∧
    (∀ l c, (l, c) ∈ ed ↔ (l, c) ∈ ed') ∧ (∀ l s, (l, s) ∈ ev ↔ (l, s) ∈ ev') := by
  rw [buildReturnSig_eq b a deps subs ed ev pa ha, buildReturnSig_eq b' a' deps' subs' ed' ev' pa' ha'] at h
  -- `f c`: the pairs of category `c` (numbered as at `keyCat`) on both sides; each part passes the filter whole or not at all
  have f := fun c => (hashCommut_inj (Except.ok.inj h)).filter (fun kv => keyCat kv.1 == c)
  simp only [filter_append, (bodyPart_cat _).filter, (argPairs_cat _ _ ha).filter, (argPairs_cat _ _ ha').filter,
    (depPart_cat _).filter, (fisSigList_cat _).filter, (extdPart_cat _).filter, (extvPart_cat _).filter] at f
  have p0 : bodyPart b ~ bodyPart b' := by simpa using f 0
  have p1 : pa ~ pa' := by simpa using f 1
  have p2 : depPart deps ~ depPart deps' := by simpa using f 2
  have p3 : fisSigList subs ~ fisSigList subs' := by simpa using f 3
  have p4 : extdPart ed ~ extdPart ed' := by simpa using f 4
  have p5 : extvPart ev ~ extvPart ev' := by simpa using f 5
  exact ⟨bodyPart_perm_eq b b' p0, p1,
    fun p s => mem_iff_of_map_perm (prefixKey_inj "dep_" fun _ _ e => e) p2 (p, s),
    fisSigList_perm_eq subs subs' p3,
    fun l c => mem_iff_of_map_perm (prefixKey_inj "ext_dep_" fun x y e =>
      (String.append_right_inj _).mp ((String.append_left_inj _).mp (hStr_inj e))) p4 (l, c),
    fun l s => mem_iff_of_map_perm (prefixKey_inj "ext_variable_" fun _ _ e => e) p5 (l, s)⟩

end Dds
