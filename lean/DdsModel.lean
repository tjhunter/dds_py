import DdsModel.Sha256
import DdsModel.Sym
import DdsModel.PyVal
import DdsModel.Args
import DdsModel.Sig
import DdsModel.Auth
import DdsModel.Paths
import DdsModel.StoreSpec
import DdsModel.Assoc
import DdsModel.Lru
import DdsModel.Program
import DdsModel.Introspect
import DdsModel.Eval
import DdsModel.LocalStore
import DdsModel.Graph
import DdsModel.Structure
import DdsModel.Codec
import DdsModel.Conc
import DdsModel.Config
import DdsModel.Scope
import DdsModel.Order
import DdsModel.Imports
